import ScrutModel.Lemmas.ConfigRender
/-! The flow parser reads back a rendered AST whose plain scalars are tokens (`Tok`): a token is scanned as
itself in front of `,`, `}` and `: `, a quoted scalar always, and the entries of a mapping follow one by one,
one unit of fuel each. -/
namespace Scrut.Yaml
open Scrut.Dur

/-- characters a plain scalar may contain anywhere without ending it, that are not line breaks and
that the YAML reader accepts -/
def tokChar (c : Char) : Bool :=
  !isFlowInd c && !(c = ':') && !(c = '#') && !isBreak c && readable c

/-- `plainStartOk` of the model, on the scalar itself instead of the text that follows -/
def startOk : List Char → Bool
  | [] => false
  | c :: r =>
    if c = '-' then (match r with | d :: _ => !isBlank d | [] => false)
    else !isBlank c && !isIndicator c

/-- `scanScalar` drops trailing blanks of a plain scalar: a token does not end in one -/
def lastOk (p : List Char) : Bool :=
  match p.reverse with
  | l :: _ => !isBlank l
  | [] => false

/-- a plain scalar that is read back as itself in front of `,`, `}` or `: ` -/
def Tok (p : List Char) : Bool := p.all tokChar && startOk p && lastOk p

theorem plainGo_tok : ∀ (p acc rest : List Char), p.all tokChar = true →
    plainGo (p ++ rest) acc = plainGo rest (p.reverse ++ acc) := by
  intro p
  induction p with
  | nil => intro acc rest _; simp
  | cons c p ih =>
    intro acc rest h
    simp only [List.all_cons, Bool.and_eq_true] at h
    have hc := h.1
    simp only [tokChar, Bool.and_eq_true, Bool.not_eq_true', decide_eq_false_iff_not] at hc
    obtain ⟨⟨⟨⟨h1, h2⟩, h3⟩, _⟩, _⟩ := hc
    rw [List.cons_append, plainGo.eq_def]
    simp only [h1, h2, h3, Bool.false_eq_true, if_false, decide_false, Bool.false_and]
    rw [ih _ _ h.2]
    simp

/-- what may follow a plain scalar -/
def Stop (rest : List Char) : Prop :=
  (∃ r, rest = ',' :: r) ∨ (∃ r, rest = '}' :: r) ∨ (∃ r, rest = ':' :: ' ' :: r)

theorem plainGo_stop (acc rest : List Char) (h : Stop rest) : plainGo rest acc = some (acc, rest) := by
  rcases h with ⟨r, rfl⟩ | ⟨r, rfl⟩ | ⟨r, rfl⟩
  · rw [plainGo.eq_def]; simp [isFlowInd]
  · rw [plainGo.eq_def]; simp [isFlowInd]
  · rw [plainGo.eq_def]; simp [isFlowInd, isBlank]

theorem dropBlanks_lastOk (p : List Char) (h : lastOk p = true) : dropBlanks p.reverse = p.reverse := by
  unfold lastOk at h
  cases hp : p.reverse with
  | nil => rfl
  | cons l r =>
    rw [hp] at h
    simp only [Bool.not_eq_true'] at h
    simp [dropBlanks, h]

theorem startOk_cons {c : Char} {r : List Char} (h : startOk (c :: r) = true) (rest : List Char) :
    isBlank c = false ∧ c ≠ '"' ∧ plainStartOk c (r ++ rest) = true := by
  unfold startOk at h
  unfold plainStartOk
  by_cases hm : c = '-'
  · subst hm
    cases r with
    | nil => simp at h
    | cons d r' => simpa [isBlank] using h
  · simp only [hm, if_false, Bool.and_eq_true, Bool.not_eq_true'] at h
    refine ⟨h.1, ?_, by simp [h.1, hm, h.2]⟩
    intro hc; subst hc; simp [isIndicator] at h

theorem scanScalar_tok (p rest : List Char) (h : Tok p = true) (hs : Stop rest) :
    scanScalar (p ++ rest) = some (.plain p, rest) := by
  simp only [Tok, Bool.and_eq_true] at h
  obtain ⟨⟨hall, hstart⟩, hlast⟩ := h
  cases p with
  | nil => simp [startOk] at hstart
  | cons c r =>
    obtain ⟨_, hq, hso⟩ := startOk_cons hstart rest
    have hgo := plainGo_tok (c :: r) [] rest hall
    rw [plainGo_stop _ _ hs] at hgo
    rw [List.cons_append] at hgo ⊢
    unfold scanScalar
    split
    · rename_i heq; cases heq
    · rename_i rest' heq
      simp only [List.cons.injEq] at heq
      exact absurd heq.1 hq
    · rename_i c' rest' hne heq
      simp only [List.cons.injEq] at heq
      obtain ⟨rfl, rfl⟩ := heq
      simp only [hso, if_true, hgo, Option.map_some, List.append_nil]
      rw [dropBlanks_lastOk _ hlast]
      simp

/-- scalars of a rendered AST that the parser reads back -/
def GoodS : Scalar → Bool
  | .plain p => Tok p
  | .quoted _ => true

theorem scanScalar_good (s : Scalar) (rest : List Char) (h : GoodS s = true) (hs : Stop rest) :
    scanScalar (s.render ++ rest) = some (s, rest) := by
  cases s with
  | plain p => exact scanScalar_tok p rest h hs
  | quoted q => exact scan_jsonQuote q rest

theorem good_head (s : Scalar) (h : GoodS s = true) :
    ∃ c r, s.render = c :: r ∧ isBlank c = false ∧ c ≠ '}' ∧ c ≠ ',' ∧ c ≠ '{' := by
  cases s with
  | quoted q => exact ⟨'"', _, rfl, by decide, by decide, by decide, by decide⟩
  | plain p =>
    simp only [GoodS, Tok, Bool.and_eq_true] at h
    obtain ⟨⟨hall, hstart⟩, _⟩ := h
    cases p with
    | nil => simp [startOk] at hstart
    | cons c r =>
      simp only [List.all_cons, Bool.and_eq_true, tokChar, Bool.not_eq_true', decide_eq_false_iff_not] at hall
      obtain ⟨⟨⟨⟨⟨h1, _⟩, _⟩, _⟩, _⟩, _⟩ := hall
      refine ⟨c, r, rfl, (startOk_cons hstart []).1, ?_, ?_, ?_⟩
      all_goals (intro hc; subst hc; simp [isFlowInd] at h1)

theorem skipWs_head {c : Char} {r : List Char} (h : isBlank c = false) : skipWs (c :: r) = c :: r := by
  simp [skipWs, h]

theorem utf8Len_append (a b : List Char) : utf8Len (a ++ b) = utf8Len a + utf8Len b := by
  induction a with
  | nil => simp [utf8Len]
  | cons c a ih => simp [utf8Len, ih]; omega

theorem parseKey_good (k : Scalar) (tail : List Char) (hk : GoodS k = true)
    (hlen : utf8Len k.render ≤ 1024) (ht : skipWs tail = tail) :
    skipWs (k.render ++ (':' :: ' ' :: tail)) = k.render ++ (':' :: ' ' :: tail) ∧
    (∀ r, k.render ++ (':' :: ' ' :: tail) ≠ '}' :: r) ∧
    parseKey (k.render ++ (':' :: ' ' :: tail)) = some (k, tail) := by
  obtain ⟨c, kr, hr, hb, hbrace, _⟩ := good_head k hk
  refine ⟨by rw [hr, List.cons_append]; exact skipWs_head hb,
    fun r h => by rw [hr, List.cons_append] at h; exact hbrace (List.cons.inj h).1, ?_⟩
  have hscan := scanScalar_good k (':' :: ' ' :: tail) hk (Or.inr (Or.inr ⟨tail, rfl⟩))
  unfold parseKey
  rw [hscan]
  have h1 : skipWs (':' :: ' ' :: tail) = ':' :: ' ' :: tail := skipWs_head (by decide)
  have h2 : skipWs (' ' :: tail) = tail := by simp [skipWs, isBlank, ht]
  simp only [h1, h2]
  rw [utf8Len_append]
  have : ¬ (utf8Len k.render + utf8Len (':' :: ' ' :: tail) > 1024 + utf8Len (':' :: ' ' :: tail)) := by omega
  simp [this]

/-- what may follow a value inside a mapping -/
def Sep (t : List Char) : Prop := (∃ r, t = ',' :: r) ∨ (∃ r, t = '}' :: r)

theorem Sep.stop {t : List Char} (h : Sep t) : Stop t := by
  rcases h with h | h
  · exact Or.inl h
  · exact Or.inr (Or.inl h)

theorem Sep.skip {t : List Char} (h : Sep t) : skipWs t = t := by
  rcases h with ⟨r, rfl⟩ | ⟨r, rfl⟩ <;> exact skipWs_head (by decide)

theorem scanValS_good (v : Scalar) (t : List Char) (hv : GoodS v = true) (ht : Sep t) :
    scanValS (v.render ++ t) = some (v, t) := by
  obtain ⟨c, r, hr, _, h1, h2, _⟩ := good_head v hv
  have := scanScalar_good v t hv ht.stop
  rw [hr, List.cons_append] at this ⊢
  unfold scanValS
  split
  · rename_i heq; simp only [List.cons.injEq] at heq; exact absurd heq.1 h2
  · rename_i heq; simp only [List.cons.injEq] at heq; exact absurd heq.1 h1
  · exact this

def GoodKS (kv : Scalar × Scalar) : Bool :=
  GoodS kv.1 && GoodS kv.2 && decide (utf8Len kv.1.render ≤ 1024)

theorem good_skip (s : Scalar) (t : List Char) (h : GoodS s = true) : skipWs (s.render ++ t) = s.render ++ t := by
  obtain ⟨c, r, hr, hb, _⟩ := good_head s h
  rw [hr, List.cons_append]
  exact skipWs_head hb

/- `parseMapS` and `parseMapV` are the same loop over two scanners of values, `scanValS` and `scanVal`, and
so are the lemmas about them. They are not instances of one lemma over the scanner: a loop polymorphic in the
type of the values is not definitionally either of them (the matcher on a polymorphic result type is not the
monomorphic one while the text is a variable), and proving the two equal costs more than the second copy. -/
theorem parseMapS_entry (kv : Scalar × Scalar) (f : Nat) (t : List Char) (h : GoodKS kv = true)
    (ht : Sep t) :
    parseMapS (f + 1) (renderKS kv ++ t) =
      match (generalizing := false) t with
      | ',' :: r' => (match parseMapS f r' with | none => none | some (l, r'') => some (kv :: l, r''))
      | '}' :: r' => some ([kv], r')
      | _ => none := by
  obtain ⟨k, v⟩ := kv
  simp only [GoodKS, Bool.and_eq_true, decide_eq_true_eq] at h
  obtain ⟨⟨hk, hv⟩, hlen⟩ := h
  obtain ⟨hsk, hbrace, hkey⟩ := parseKey_good k (v.render ++ t) hk hlen (good_skip v t hv)
  have hval := scanValS_good v t hv ht
  simp only [renderKS, List.append_assoc, List.cons_append] at hsk hbrace hkey ⊢
  rw [parseMapS, hsk]
  split
  · rename_i heq
    exact absurd heq (hbrace _)
  · simp only [hkey, hval, ht.skip]
    rfl

theorem parseMapS_blank (f : Nat) (cs : List Char) : parseMapS f (' ' :: cs) = parseMapS f cs := by
  cases f with
  | zero => simp [parseMapS]
  | succ f =>
    rw [parseMapS, parseMapS]
    have : skipWs (' ' :: cs) = skipWs cs := by simp [skipWs, isBlank]
    rw [this]

theorem parseMapS_entries : ∀ (kvs : List (Scalar × Scalar)) (fuel : Nat) (rest : List Char),
    kvs.all GoodKS = true → kvs.length < fuel →
    parseMapS fuel (joinComma (kvs.map renderKS) ++ ('}' :: rest)) = some (kvs, rest) := by
  intro kvs
  induction kvs with
  | nil =>
    intro fuel rest _ hf
    cases fuel with
    | zero => simp at hf
    | succ f =>
      simp only [List.map_nil, joinComma, List.nil_append]
      rw [parseMapS]
      have : skipWs ('}' :: rest) = '}' :: rest := skipWs_head (by decide)
      rw [this]
      simp
  | cons kv r ih =>
    intro fuel rest hall hf
    simp only [List.all_cons, Bool.and_eq_true] at hall
    cases fuel with
    | zero => simp at hf
    | succ f =>
      cases r with
      | nil =>
        simp only [List.map_cons, List.map_nil, joinComma]
        exact parseMapS_entry kv f _ hall.1 (Or.inr ⟨rest, rfl⟩)
      | cons kv2 r2 =>
        simp only [List.map_cons, joinComma, List.append_assoc, List.cons_append]
        rw [parseMapS_entry kv f _ hall.1 (Or.inl ⟨_, rfl⟩)]
        simp only
        rw [parseMapS_blank]
        have := ih f rest hall.2 (by simp only [List.length_cons] at hf ⊢; omega)
        simp only [List.map_cons] at this
        rw [this]

/-- one unit of fuel per entry is enough: every piece has at least one character -/
theorem length_lt_joinComma {α : Type} (r : α → List Char) (hr : ∀ x, r x ≠ []) (t : List Char) :
    ∀ (l : List α), l.length < (joinComma (l.map r) ++ t).length + 1
  | [] => Nat.succ_pos _
  | [a] => by
    have := List.length_pos_iff.mpr (hr a)
    simp only [List.map_cons, List.map_nil, joinComma, List.length_append, List.length_cons, List.length_nil]
    omega
  | a :: b :: l => by
    have := length_lt_joinComma r hr t (b :: l)
    simp only [List.map_cons, joinComma, List.length_append, List.length_cons] at this ⊢
    omega

def GoodV : Val → Bool
  | .sc s => GoodS s
  | .map kvs => kvs.all GoodKS

def GoodKV (kv : Scalar × Val) : Bool :=
  GoodS kv.1 && GoodV kv.2 && decide (utf8Len kv.1.render ≤ 1024)

theorem scanVal_good (v : Val) (t : List Char) (hv : GoodV v = true) (ht : Sep t) :
    scanVal (v.render ++ t) = some (v, t) := by
  cases v with
  | sc s =>
    obtain ⟨c, r, hr, _, _, _, h3⟩ := good_head s hv
    have := scanValS_good s t hv ht
    simp only [Val.render] at this ⊢
    rw [hr, List.cons_append] at this ⊢
    unfold scanVal
    split
    · rename_i heq; simp only [List.cons.injEq] at heq; exact absurd heq.1 h3
    · rw [this]; rfl
  | map kvs =>
    simp only [Val.render, List.cons_append, List.append_assoc, List.nil_append]
    unfold scanVal
    simp only
    rw [parseMapS_entries kvs _ t hv (length_lt_joinComma renderKS (by simp [renderKS]) _ kvs)]
    rfl

theorem goodV_skip (v : Val) (t : List Char) (h : GoodV v = true) : skipWs (v.render ++ t) = v.render ++ t := by
  cases v with
  | sc s => exact good_skip s t h
  | map kvs => simp only [Val.render, List.cons_append]; exact skipWs_head (by decide)

theorem parseMapV_entry (kv : Scalar × Val) (f : Nat) (t : List Char) (h : GoodKV kv = true)
    (ht : Sep t) :
    parseMapV (f + 1) (renderKV kv ++ t) =
      match (generalizing := false) t with
      | ',' :: r' => (match parseMapV f r' with | none => none | some (l, r'') => some (kv :: l, r''))
      | '}' :: r' => some ([kv], r')
      | _ => none := by
  obtain ⟨k, v⟩ := kv
  simp only [GoodKV, Bool.and_eq_true, decide_eq_true_eq] at h
  obtain ⟨⟨hk, hv⟩, hlen⟩ := h
  obtain ⟨hsk, hbrace, hkey⟩ := parseKey_good k (v.render ++ t) hk hlen (goodV_skip v t hv)
  have hval := scanVal_good v t hv ht
  simp only [renderKV, List.append_assoc, List.cons_append] at hsk hbrace hkey ⊢
  rw [parseMapV, hsk]
  split
  · rename_i heq
    exact absurd heq (hbrace _)
  · simp only [hkey, hval, ht.skip]
    rfl

theorem parseMapV_blank (f : Nat) (cs : List Char) : parseMapV f (' ' :: cs) = parseMapV f cs := by
  cases f with
  | zero => simp [parseMapV]
  | succ f =>
    rw [parseMapV, parseMapV]
    have : skipWs (' ' :: cs) = skipWs cs := by simp [skipWs, isBlank]
    rw [this]

theorem parseMapV_entries : ∀ (a : Ast) (fuel : Nat) (rest : List Char),
    a.all GoodKV = true → a.length < fuel →
    parseMapV fuel (joinComma (a.map renderKV) ++ ('}' :: rest)) = some (a, rest) := by
  intro a
  induction a with
  | nil =>
    intro fuel rest _ hf
    cases fuel with
    | zero => simp at hf
    | succ f =>
      simp only [List.map_nil, joinComma, List.nil_append]
      rw [parseMapV]
      have : skipWs ('}' :: rest) = '}' :: rest := skipWs_head (by decide)
      rw [this]
      simp
  | cons kv r ih =>
    intro fuel rest hall hf
    simp only [List.all_cons, Bool.and_eq_true] at hall
    cases fuel with
    | zero => simp at hf
    | succ f =>
      cases r with
      | nil =>
        simp only [List.map_cons, List.map_nil, joinComma]
        exact parseMapV_entry kv f _ hall.1 (Or.inr ⟨rest, rfl⟩)
      | cons kv2 r2 =>
        simp only [List.map_cons, joinComma, List.append_assoc, List.cons_append]
        rw [parseMapV_entry kv f _ hall.1 (Or.inl ⟨_, rfl⟩)]
        simp only
        rw [parseMapV_blank]
        have := ih f rest hall.2 (by simp only [List.length_cons] at hf ⊢; omega)
        simp only [List.map_cons] at this
        rw [this]

theorem parseAst_render (a : Ast) (h : a.all GoodKV = true) : parseAst (Ast.render a) = some a := by
  unfold parseAst Ast.render
  have hd : dropSpaces ('{' :: (joinComma (a.map renderKV) ++ ['}'])) = '{' :: (joinComma (a.map renderKV) ++ ['}']) := by
    simp [dropSpaces]
  rw [hd]
  simp only
  rw [parseMapV_entries a _ [] h (length_lt_joinComma renderKV (by simp [renderKV]) _ a)]
  simp [skipWs]

end Scrut.Yaml
