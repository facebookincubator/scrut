import ScrutModel.Lemmas.TestRunProps
import ScrutModel.Lemmas.Divider
import ScrutModel.Lemmas.StripAnsi
/-!
# `scrut test` with the single-script executor (`Model/TestRun.lean` section 6)

What the one script writes is cut at the divider lines into the bytes of the commands in front of
the first one that leaves the shell.  `replace_crlf` of the WHOLE captured stream is `replace_crlf`
of every command's own bytes: the divider line carries no CR and starts with `~`, so a CR at the end
of a payload pairs with nothing, and replacing CR LF creates no divider start.  Stripping escape
sequences does NOT commute with the protocol (a sequence a command leaves open runs into the
following divider line); the statements in terms of the runs assume it has nothing to strip.
-/

namespace Scrut.TestRun
open Scrut

theorem salt_colon : Divider.COLON ∉ modelSalt := by decide +kernel
theorem salt_lf : Divider.LF ∉ modelSalt := by decide +kernel
theorem salt_tilde : (126 : UInt8) ∉ modelSalt := by decide +kernel
theorem salt_cr : Crlf.CR ∉ modelSalt := by decide +kernel

/-- the runs in front of the first command that leaves the shell -/
def beforeLeave (runs : List SRan) : List SRan := runs.takeWhile (fun r => !r.leaves)

theorem scriptStream_eq (pay : SRan → Bytes) (code : SRan → Nat) : ∀ (runs : List SRan) (i : Nat),
    scriptStream pay code i runs =
      Divider.joinStream modelSalt i ((beforeLeave runs).map fun r => (pay r, code r)) ++
        ((runs.dropWhile fun r => !r.leaves).head?.map pay).getD [] := by
  intro runs
  induction runs with
  | nil => intro i; rfl
  | cons r rs ih =>
    intro i
    cases hlv : r.leaves <;>
      simp [scriptStream, beforeLeave, hlv, Divider.joinStream, ih (i + 1)]

/-- **the divider protocol on what the script writes to one stream**: one output per command in front
of the first one that leaves the shell; what that command wrote is dropped; the parser fails at the
divider of test 2^64 (the index is parsed as `usize`) -/
theorem iterate_scriptStream (limit : Option Nat) (pay : SRan → Bytes) (code : SRan → Nat)
    (runs : List SRan)
    (hpay : ∀ r ∈ runs, Divider.noSalted modelSalt (pay r) = true ∧ code r < 2 ^ 31)
    (hlim : ∀ n, limit = some n → (beforeLeave runs).length ≤ n) :
    Divider.iterate modelSalt limit (scriptStream pay code 0 runs) =
      if (beforeLeave runs).length ≤ 2 ^ 64 then
        .ok ((beforeLeave runs).map fun r => (pay r, (code r : Int)))
      else .error (.failed (2 ^ 64)) := by
  have htail : ¬ Divider.needle modelSalt <:+: ((runs.dropWhile fun r => !r.leaves).head?.map pay).getD [] := by
    cases hd : (runs.dropWhile fun r => !r.leaves).head? with
    | none => exact fun h => Divider.needle_ne_nil _ (List.infix_nil.1 h)
    | some r =>
      exact (Divider.noSalted_iff _ _).1
        (hpay r ((List.dropWhile_sublist _).subset (List.mem_of_mem_head? hd))).1
  have := Divider.iterLines_joinStream_tail limit modelSalt salt_colon salt_lf salt_tilde _ htail
    ((beforeLeave runs).map fun r => (pay r, code r)) 0
    (List.forall_mem_map.2 fun r hr => hpay r ((List.takeWhile_prefix _).subset hr)) (Nat.zero_le _)
    (by simpa using hlim)
  rw [Divider.iterate, Divider.splitAtNewline, scriptStream_eq]
  simpa [Function.comp_def] using this

theorem spec_scriptStream (pay : SRan → Bytes) (code : SRan → Nat) : ∀ (runs : List SRan) (i : Nat),
    Crlf.replaceCrlfSpec (scriptStream pay code i runs) =
      scriptStream (fun r => Crlf.replaceCrlfSpec (pay r)) code i runs := by
  intro runs
  induction runs with
  | nil => intro i; rfl
  | cons r rs ih =>
    intro i
    by_cases hlv : r.leaves = true
    · simp only [scriptStream, hlv, if_true]
    · have hlv' : r.leaves = false := by simpa using hlv
      simp only [scriptStream, hlv', Bool.false_eq_true, if_false]
      rw [Divider.spec_chunk modelSalt salt_cr, ih]

/-- the CR LF part of `render_output` of the compiled test case: `replace_crlf` unless the compiled
`keep_crlf` is `true` -/
def rend (cfg : Compiled) (b : Bytes) : Bytes :=
  if cfg.keepCrlf = some true then b else Crlf.replaceCrlfSpec b

/-- `render_output` of the compiled test case on bytes: `rend`, then `strip_ansi_sequences_bytes`
when the compiled `strip_ansi_escaping` is `true` -/
def rendFull (cfg : Compiled) (b : Bytes) : Bytes :=
  if cfg.stripAnsi = some true then StripAnsi.strip (rend cfg b) else rend cfg b

theorem renderOutput_compiled_full (cfg : Compiled) (raw : Bytes) :
    Crlf.renderOutput cfg.keepCrlf cfg.stripAnsi (fun b => some (StripAnsi.strip b)) raw =
      some (rendFull cfg raw) := by
  unfold rendFull rend
  by_cases hs : cfg.stripAnsi = some true
  · rw [hs, Crlf.renderOutput_strip]; simp
  · rw [Crlf.renderOutput_no_strip _ _ _ _ hs]; simp [hs]

theorem esc_not_mem_rend (cfg : Compiled) (b : Bytes) (h : StripAnsi.esc ∉ b) : StripAnsi.esc ∉ rend cfg b := by
  unfold rend
  split
  · exact h
  · exact fun hin => h ((Crlf.spec_sublist b).subset hin)

theorem rendFull_no_esc (cfg : Compiled) (b : Bytes) (h : cfg.stripAnsi ≠ some true ∨ StripAnsi.esc ∉ b) :
    rendFull cfg b = rend cfg b := by
  unfold rendFull
  by_cases hs : cfg.stripAnsi = some true
  · rcases h with h | h
    · exact absurd hs h
    · simp only [hs, if_true]
      exact StripAnsi.strip_no_esc _ (esc_not_mem_rend cfg b h)
  · simp only [hs, if_false]

theorem renderOutput_compiled (cfg : Compiled) (raw : Bytes)
    (h : cfg.stripAnsi ≠ some true ∨ StripAnsi.esc ∉ raw) :
    Crlf.renderOutput cfg.keepCrlf cfg.stripAnsi (fun b => some (StripAnsi.strip b)) raw =
      some (rend cfg raw) := by
  rw [renderOutput_compiled_full, rendFull_no_esc cfg raw h]

theorem esc_not_mem_chunk (i c : Nat) (payload : Bytes) (h : StripAnsi.esc ∉ payload) :
    StripAnsi.esc ∉ Divider.chunk modelSalt i payload c := by
  rw [Divider.chunk_eq, List.mem_append, List.mem_append, not_or, not_or]
  -- `ESC` is not in the salt, the prefix or the separator, is no digit, and is not the line feed
  exact ⟨h, Divider.not_mem_divider_line modelSalt i c (by decide +kernel) (by decide +kernel)
    (by decide +kernel) (by decide), by decide +kernel⟩

theorem esc_not_mem_scriptStream (pay : SRan → Bytes) (code : SRan → Nat) :
    ∀ (runs : List SRan) (i : Nat), (∀ r ∈ runs, StripAnsi.esc ∉ pay r) →
      StripAnsi.esc ∉ scriptStream pay code i runs := by
  intro runs
  induction runs with
  | nil => intro i _; simp [scriptStream]
  | cons r rs ih =>
    intro i h
    have hr := h r (by simp)
    by_cases hlv : r.leaves = true
    · simpa only [scriptStream, hlv, if_true] using hr
    · have hlv' : r.leaves = false := by simpa using hlv
      simp only [scriptStream, hlv', Bool.false_eq_true, if_false, List.mem_append, not_or]
      exact ⟨esc_not_mem_chunk i (code r) (pay r) hr, ih (i + 1) (fun r' hr' => h r' (by simp [hr']))⟩

/-- no command wrote an `ESC` byte (to either stream) -/
def EscFree (runs : List SRan) : Prop :=
  ∀ r ∈ runs, StripAnsi.esc ∉ r.ran.stdout ∧ StripAnsi.esc ∉ r.ran.stderr

theorem rend_scriptStream (cfg : Compiled) (pay : SRan → Bytes) (code : SRan → Nat) (runs : List SRan) (i : Nat) :
    rend cfg (scriptStream pay code i runs) = scriptStream (fun r => rend cfg (pay r)) code i runs := by
  unfold rend
  by_cases hk : cfg.keepCrlf = some true
  · simp only [hk, if_true]
  · simp only [hk, if_false]
    exact spec_scriptStream pay code runs i

theorem noSalted_rend (cfg : Compiled) (p : Bytes) (h : Divider.noSalted modelSalt p = true) :
    Divider.noSalted modelSalt (rend cfg p) = true := by
  unfold rend
  by_cases hk : cfg.keepCrlf = some true
  · simpa only [hk, if_true] using h
  · simp only [hk, if_false]
    rw [Divider.noSalted_iff] at h ⊢
    exact fun hin => h (Crlf.infix_of_infix_spec p _ (by decide +kernel) hin)

/-- exit codes as `$?` shows them fit the `i32` the divider parser reads (`Divider.iterLines_chunk`
asks for `< 2 ^ 31`), and their `toNat` loses nothing -/
theorem codeOk_spec {r : SRan} (h : codeOk r = true) :
    r.ran.code.toNat < 2 ^ 31 ∧ ((r.ran.code.toNat : Nat) : Int) = r.ran.code := by
  simp [codeOk] at h
  constructor
  · omega
  · omega

theorem beforeLeave_full {runs : List SRan} (h : (beforeLeave runs).length = runs.length) :
    beforeLeave runs = runs ∧ ∀ r ∈ runs, r.leaves = false := by
  have he : beforeLeave runs = runs := (List.takeWhile_prefix _).eq_of_length h
  have hall : (beforeLeave runs).all (fun r => !r.leaves) = true := List.all_takeWhile
  rw [he] at hall
  exact ⟨he, fun r hr => by simpa using List.all_eq_true.1 hall r hr⟩

theorem iterate_rendered (cfg : Compiled) (limit : Option Nat) (pay : SRan → Bytes) (runs : List SRan)
    (hstrip : cfg.stripAnsi ≠ some true ∨ ∀ r ∈ runs, StripAnsi.esc ∉ pay r)
    (hsalt : ∀ r ∈ runs, Divider.noSalted modelSalt (pay r) = true) (hcode : ∀ r ∈ runs, codeOk r = true)
    (hlim : ∀ n, limit = some n → (beforeLeave runs).length ≤ n) :
    Divider.iterate modelSalt limit (rendFull cfg (scriptStream pay (fun r => r.ran.code.toNat) 0 runs)) =
      if (beforeLeave runs).length ≤ 2 ^ 64 then
        .ok ((beforeLeave runs).map fun r => (rend cfg (pay r), r.ran.code))
      else .error (.failed (2 ^ 64)) := by
  rw [rendFull_no_esc cfg _ (hstrip.imp id (esc_not_mem_scriptStream pay _ runs 0)), rend_scriptStream,
    iterate_scriptStream limit _ _ runs
      (fun r hr => ⟨noSalted_rend cfg _ (hsalt r hr), (codeOk_spec (hcode r hr)).1⟩) hlim]
  congr 2
  exact List.map_congr_left fun r hr => by
    rw [(codeOk_spec (hcode r ((List.takeWhile_prefix _).subset hr))).2]

/-- the script's own exit status is the skip code, or a command in front of the first one that
leaves the shell ended with it (its divider line carries it) -/
def scriptSkipHit (skip : Int) (runs : List SRan) : Bool :=
  decide (scriptExit runs = skip) || (beforeLeave runs).any (fun r => decide (r.ran.code = skip))

theorem scriptSkip_compiled {tests : List Test} {tcs : List Exec.TC} {cfg : Compiled}
    (hl : tcs.length = tests.length) (hcfg : compileTestcase tests = some cfg) :
    Exec.scriptSkip (tcs.map fun tc => { tc with skipCode := cfg.skipCode }) = cfg.skipCode.getD 80 := by
  cases tcs with
  | cons tc rest => rfl
  | nil =>
    have ht : tests = [] := List.length_eq_zero_iff.1 (by simpa using hl.symm)
    subst ht
    simp [compileTestcase, setConsistent] at hcfg
    subst hcfg
    rfl

theorem zipErr_length : ∀ (outs errs : List (Bytes × Int)), (Divider.zipErr outs errs).length = outs.length := by
  intro outs
  induction outs with
  | nil => intro errs; simp [Divider.zipErr]
  | cons o r ih =>
    intro errs
    obtain ⟨ob, oc⟩ := o
    cases errs with
    | nil => simp [Divider.zipErr, ih]
    | cons e es => obtain ⟨eb, ec⟩ := e; simp [Divider.zipErr, ih]

/-- the output `z` of test `t` in the single-script executor, as `Exec` sees it: `scriptOut` as a
total function (`zipScriptOuts_eq`) -/
def scriptOutOf (t : Test) (z : Divider.Out) : Exec.Out :=
  ⟨.code z.code, accBit t.exps z.stdout, accBit t.exps z.stderr⟩

theorem zipScriptOuts_eq : ∀ (tests : List Test) (zs : List Divider.Out),
    zipScriptOuts tests zs = some ((tests.zip zs).map fun p => scriptOutOf p.1 p.2)
  | [], _ => rfl
  | _ :: _, [] => rfl
  | t :: ts, z :: zs => by
    simp only [zipScriptOuts, scriptOut, accepts_eq, zipScriptOuts_eq ts zs, List.zip_cons_cons,
      List.map_cons, scriptOutOf]

/-- what the one script's stdout carries for a test: under `combined` both streams -/
def payOut (cfg : Compiled) (r : SRan) : Bytes :=
  if cfg.outputStream = some .combined then r.ran.stdout ++ r.ran.stderr else r.ran.stdout
/-- … and its stderr: nothing under `combined` -/
def payErr (cfg : Compiled) (r : SRan) : Bytes :=
  if cfg.outputStream = some .combined then [] else r.ran.stderr

/-- **the paths on which `execScriptBytes` returns a result**, in the order of the code: the script's
exit status is the skip code (looked at before stdout is cut, so also when the cutting fails); a
parsed output carries the skip code; otherwise the count check has passed, stderr is cut (unless
combined) and the outputs are handed to validation -/
theorem execScriptBytes_ok_inv {tests : List Test} {tcs : List Exec.TC} {runs : List SRan}
    {r : Exec.ExecResult} (hl : tcs.length = tests.length) (h : execScriptBytes tests tcs runs = .ok r) :
    ∃ cfg, compileTestcase tests = some cfg ∧
      (((∃ e, Divider.iterate modelSalt none
          (rendFull cfg (scriptStream (payOut cfg) (fun r => r.ran.code.toNat) 0 runs)) = .error e) ∧
        scriptExit runs = cfg.skipCode.getD 80 ∧ r = .skipped 0) ∨
      ∃ outs, Divider.iterate modelSalt none
          (rendFull cfg (scriptStream (payOut cfg) (fun r => r.ran.code.toNat) 0 runs)) = .ok outs ∧
        ((∃ i, r = .skipped i ∧
            (scriptExit runs = cfg.skipCode.getD 80 ∨ ∃ oc ∈ outs, oc.2 = cfg.skipCode.getD 80)) ∨
         (outs.length = tests.length ∧ scriptExit runs ≠ cfg.skipCode.getD 80 ∧
           (∀ oc ∈ outs, oc.2 ≠ cfg.skipCode.getD 80) ∧
           ∃ errs, r = .ok ((tests.zip (Divider.zipErr outs errs)).map fun p => scriptOutOf p.1 p.2) ∧
             (if cfg.outputStream = some .combined then .ok [] else
                Divider.iterate modelSalt (some outs.length)
                  (rendFull cfg (scriptStream (fun r => r.ran.stderr) (fun r => r.ran.code.toNat) 0 runs))) =
               .ok errs))) := by
  unfold execScriptBytes at h
  cases hcfg : compileTestcase tests with
  | none => simp [hcfg] at h
  | some cfg =>
    have hskip := scriptSkip_compiled hl hcfg
    have rawOut_eq : (if cfg.outputStream = some .combined then
          scriptStream (fun r => r.ran.stdout ++ r.ran.stderr) (fun r => r.ran.code.toNat) 0 runs
        else scriptStream (fun r => r.ran.stdout) (fun r => r.ran.code.toNat) 0 runs) =
        scriptStream (payOut cfg) (fun r => r.ran.code.toNat) 0 runs := by
      unfold payOut
      split <;> rfl
    refine ⟨cfg, rfl, ?_⟩
    simp only [hcfg, renderOutput_compiled_full, decide_eq_true_eq, rawOut_eq, hskip,
      zipScriptOuts_eq] at h
    split at h
    · -- cutting stdout fails: a result only if the script's own exit status is the skip code
      rename_i e he
      split at h
      · rename_i hc
        cases h
        exact .inl ⟨⟨e, he⟩, hc, rfl⟩
      · cases h
    · -- stdout is cut into `outs`; the three results of `execScript` on them
      rename_i outs hout
      refine .inr ⟨outs, hout, ?_⟩
      split at h
      · cases h
      · -- `.ok`: the count check has passed, stderr is cut (three results) and the outputs are zipped
        rename_i z hz
        rcases Exec.execScript_code_inv _ _ _ _ hz with ⟨_, hcount, hne, hnone⟩ | ⟨i, hi, _⟩
        · rw [hskip] at hne hnone
          simp only [List.length_map, hl] at hcount
          split at h
          · cases h
          · cases h
          · rename_i errs herr
            cases h
            refine .inr ⟨hcount, hne, fun oc hoc he =>
              hnone ⟨.code oc.2, false, false⟩ (List.mem_map.2 ⟨oc, hoc, rfl⟩) (by rw [he]),
              errs, rfl, ?_⟩
            split at herr
            · rename_i hc; simpa [hc] using herr
            · rename_i hc; simpa [hc] using herr
        · cases hi
      · -- any other result of `execScript` on an exit code is `skipped`
        rename_i r' hnok hr'
        cases h
        rcases Exec.execScript_code_inv _ _ _ _ hr' with ⟨hok, _⟩ | ⟨i, hi, hcause⟩
        · exact absurd hok (fun he => hnok _ he)
        · rw [hskip] at hcause
          refine .inl ⟨i, hi, hcause.imp id ?_⟩
          rintro ⟨o, ho, hs⟩
          obtain ⟨oc, hoc, rfl⟩ := List.mem_map.1 ho
          exact ⟨oc, hoc, Exec.Status.code.inj hs⟩

/-- the shape of what `execScriptBytes` returns: the document is skipped, or there is exactly one
output per test case, each with an exit code -/
theorem execScriptBytes_ok {tests : List Test} {tcs : List Exec.TC} {runs : List SRan}
    {r : Exec.ExecResult} (hl : tcs.length = tests.length)
    (h : execScriptBytes tests tcs runs = .ok r) :
    (∃ i, r = .skipped i) ∨
    ∃ xs, r = .ok xs ∧ xs.length = tests.length ∧ ∀ x ∈ xs, ∃ c, x.status = .code c := by
  obtain ⟨cfg, _, ⟨_, _, hr⟩ | ⟨outs, _, ⟨i, hr, _⟩ | ⟨hlen, _, _, errs, hr, _⟩⟩⟩ :=
    execScriptBytes_ok_inv hl h
  · exact .inl ⟨0, hr⟩
  · exact .inl ⟨i, hr⟩
  · refine .inr ⟨_, hr, by simp [zipErr_length, hlen], fun x hx => ?_⟩
    obtain ⟨p, _, rfl⟩ := List.mem_map.1 hx
    exact ⟨_, rfl⟩

/-- what the divider protocol finds for the command `r` when no command left the shell:
`render_output` of the bytes it wrote, and its exit code -/
def renderedOut (cfg : Compiled) (r : SRan) : Divider.Out :=
  ⟨rend cfg (payOut cfg r), rend cfg (payErr cfg r), r.ran.code⟩

/-- the outputs handed to validation when no command left the shell: test by test `render_output` of
the bytes the test's own command wrote and its own exit code -/
def scriptOuts (cfg : Compiled) (tests : List Test) (runs : List SRan) : List Exec.Out :=
  (tests.zip (runs.map (renderedOut cfg))).map fun p => scriptOutOf p.1 p.2

/-- **the single-script executor in terms of the runs**, when the stripping of the whole captured
streams has nothing to strip (without that it does not commute with the divider protocol: a
sequence a command leaves open runs into the following divider line): the document is skipped
exactly on `scriptSkipHit`; outputs are handed to validation only when NO command left the shell, and
they are, test by test, `render_output` of the bytes the test's own command wrote and its own exit code -/
theorem execScriptBytes_inv {tests : List Test} {tcs : List Exec.TC} {runs : List SRan}
    {r : Exec.ExecResult} {cfg : Compiled} (hl : tcs.length = tests.length)
    (hrl : runs.length = tests.length) (hcfg : compileTestcase tests = some cfg)
    (hcode : ∀ r ∈ runs, codeOk r = true) (hsalt : ∀ r ∈ runs, saltFree r = true)
    (hstrip : cfg.stripAnsi ≠ some true ∨ EscFree runs)
    (h : execScriptBytes tests tcs runs = .ok r) :
    ((∃ i, r = .skipped i) ∧ scriptSkipHit (cfg.skipCode.getD 80) runs = true) ∨
    (scriptSkipHit (cfg.skipCode.getD 80) runs = false ∧ (∀ r ∈ runs, r.leaves = false) ∧
      r = .ok (scriptOuts cfg tests runs)) := by
  obtain ⟨cfg', hcfg', hcases⟩ := execScriptBytes_ok_inv hl h
  rw [hcfg] at hcfg'
  cases hcfg'
  have hsaltOut : ∀ r ∈ runs, Divider.noSalted modelSalt (payOut cfg r) = true := by
    intro r hr
    have hs := hsalt r hr
    simp only [saltFree, Bool.and_eq_true] at hs
    unfold payOut
    split
    · exact hs.2
    · exact hs.1.1
  have hescOut : cfg.stripAnsi ≠ some true ∨ ∀ r ∈ runs, StripAnsi.esc ∉ payOut cfg r :=
    hstrip.imp id fun hs r hr => by
      unfold payOut
      split
      · simp only [List.mem_append, not_or]; exact hs r hr
      · exact (hs r hr).1
  rw [iterate_rendered cfg none _ runs hescOut hsaltOut hcode (fun n hn => by cases hn)] at hcases
  unfold scriptSkipHit
  by_cases hbig : (beforeLeave runs).length ≤ 2 ^ 64
  · -- cutting stdout succeeds: what is left are the alternatives about its outputs
    rw [if_pos hbig] at hcases
    rcases hcases with ⟨⟨_, he⟩, _⟩ | ⟨outs, ho, hcases⟩
    · cases he
    cases ho
    rcases hcases with ⟨i, hr, hcause⟩ | ⟨hcount, hne, hnone, errs, hr, herr⟩
    · refine .inl ⟨⟨i, hr⟩, ?_⟩
      rw [Bool.or_eq_true]
      refine hcause.imp (by simp) ?_
      rintro ⟨oc, hoc, he⟩
      obtain ⟨r', hr', rfl⟩ := List.mem_map.1 hoc
      exact List.any_eq_true.2 ⟨r', hr', by simpa using he⟩
    · -- the count check has passed: no command left the shell
      obtain ⟨hbl, hleave⟩ := beforeLeave_full (by rw [hrl]; simpa using hcount)
      rw [hbl] at hnone hr herr hbig
      refine .inr ⟨?_, hleave, ?_⟩
      · rw [hbl, Bool.or_eq_false_iff, List.any_eq_false]
        exact ⟨by simpa using hne, fun r' hr' => by
          simpa using hnone _ (List.mem_map.2 ⟨r', hr', rfl⟩)⟩
      · rw [hr, scriptOuts]
        congr 3
        apply Divider.zipErr_map
        intro i a ha
        by_cases hc : cfg.outputStream = some .combined
        · simp only [hc, if_true, Except.ok.injEq] at herr
          subst herr
          simp [payErr, hc, rend, Crlf.replaceCrlfSpec]
        · simp only [hc, if_false] at herr
          rw [iterate_rendered cfg _ _ runs (hstrip.imp id fun hs r hr => (hs r hr).2)
            (fun r hr => by
              have hs := hsalt r hr
              simp only [saltFree, Bool.and_eq_true] at hs
              exact hs.1.2) hcode
            (fun n hn => by cases hn; simp [hbl])] at herr
          simp only [hbl, hbig, if_true, Except.ok.injEq] at herr
          subst herr
          simp [payErr, hc, ha]
  · -- the divider of test 2^64 cannot be parsed: only the script's own exit status can skip
    rw [if_neg hbig] at hcases
    rcases hcases with ⟨_, hc, hr⟩ | ⟨outs, ho, _⟩
    · exact .inl ⟨⟨0, hr⟩, by simp [hc]⟩
    · cases ho

theorem setConsistent_spec {α : Type} [DecidableEq α] : ∀ (vs : List (Option α)) (cur res : Option α),
    setConsistent cur vs = some res →
    (cur = none ∨ cur = res) ∧ (∀ v ∈ vs, v = none ∨ v = res) ∧
    ∀ x, res = some x → cur = some x ∨ some x ∈ vs := by
  intro vs
  induction vs with
  | nil =>
    intro cur res h
    simp only [setConsistent, Option.some.injEq] at h
    exact ⟨Or.inr h, by simp, fun x hx => Or.inl (h.trans hx)⟩
  | cons v vs ih =>
    intro cur res h
    cases cur with
    | none =>
      simp only [setConsistent] at h
      obtain ⟨h1, h2, h3⟩ := ih v res h
      refine ⟨Or.inl rfl, ?_, fun x hx => Or.inr ?_⟩
      · intro w hw
        rcases List.mem_cons.1 hw with rfl | hw
        · exact h1
        · exact h2 w hw
      · rcases h3 x hx with h4 | h4
        · simp [h4]
        · simp [h4]
    | some c =>
      simp only [setConsistent] at h
      split at h
      · rename_i hv
        obtain ⟨h1, h2, h3⟩ := ih (some c) res h
        have hc : some c = res := by
          rcases h1 with h1 | h1
          · cases h1
          · exact h1
        refine ⟨Or.inr hc, ?_, fun x hx => (h3 x hx).imp id fun hm => by simp [hm]⟩
        intro w hw
        rcases List.mem_cons.1 hw with rfl | hw
        · exact Or.inr (hv.trans hc)
        · exact h2 w hw
      · cases h

theorem compileTestcase_inv {tests : List Test} {cfg : Compiled} (h : compileTestcase tests = some cfg) :
    setConsistent none (tests.map (·.cfg.keepCrlf)) = some cfg.keepCrlf ∧
    setConsistent none (tests.map (·.cfg.outputStream)) = some cfg.outputStream ∧
    setConsistent none (tests.map (·.cfg.skipCode)) = some cfg.skipCode ∧
    setConsistent none (tests.map (·.cfg.stripAnsi)) = some cfg.stripAnsi := by
  unfold compileTestcase at h
  split at h
  · rename_i d k o s a _ hk ho hs ha
    split at h
    · cases h
    · cases h
      exact ⟨hk, ho, hs, ha⟩
  · cases h

theorem compiled_key {α : Type} [DecidableEq α] {tests : List Test} (key : Test → Option α)
    {res : Option α} (h : setConsistent none (tests.map key) = some res) :
    ∀ t ∈ tests, key t = none ∨ key t = res :=
  fun _ ht => (setConsistent_spec _ none _ h).2.1 _ (List.mem_map_of_mem ht)

theorem compiled_stripAnsi_origin {tests : List Test} {cfg : Compiled} (h : compileTestcase tests = some cfg)
    (hs : cfg.stripAnsi = some true) : ∃ t ∈ tests, t.cfg.stripAnsi = some true := by
  rcases (setConsistent_spec _ none _ (compileTestcase_inv h).2.2.2).2.2 true hs with h1 | h1
  · cases h1
  · obtain ⟨t, ht, he⟩ := List.mem_map.1 h1
    exact ⟨t, ht, he⟩

/-- **the hypothesis of the statements "in terms of the runs" below**: the stripping of the whole
captured streams is the identity -- no test case sets `strip_ansi_escaping: true`, or no command
(of the runs the document uses) wrote an `ESC` byte.  Outside it `strip_ansi_sequences_bytes` runs
over payloads AND divider lines; what holds there is `Props/C16.lean`
(`C16_script_strip_ansi_no_escape`: nothing else changes when there is nothing to strip) and the
evaluated documents `ex_strip_*` below. -/
def ScriptStripInert (tests : List Test) (runs : List SRan) : Prop :=
  (∀ t ∈ tests, t.cfg.stripAnsi ≠ some true) ∨ EscFree (runs.take tests.length)

/-- the skip code of the one script: the compiled `skip_document_code` (the first one set on a test
case, which every later test case has to repeat; 80 when none is set) -/
def scriptSkipCode (tests : List Test) : Int :=
  match compileTestcase tests with
  | some cfg => cfg.skipCode.getD 80
  | none => 80

/-- the document is skipped by the single-script executor: see `scriptSkipHit` -/
def scriptSkips (tests : List Test) (runs : List SRan) : Bool :=
  scriptSkipHit (scriptSkipCode tests) (runs.take tests.length)

theorem runScript_path {tests : List Test} {runs : List SRan} {outcomes : List Exec.Outcome}
    {status : Nat} (h : runScript tests runs = .report outcomes status) :
    tests.length ≤ runs.length ∧ (∀ r ∈ runs.take tests.length, codeOk r = true) ∧
    (∀ r ∈ runs.take tests.length, saltFree r = true) ∧
    ∃ r, execScriptBytes tests (tests.map tcOf) (runs.take tests.length) = .ok r ∧
      outcomes = Exec.runDocument (tests.map tcOf) r ∧ status = Exec.exitStatus [some outcomes] := by
  unfold runScript at h
  rw [mapM_tc_eq] at h
  split at h
  · cases h
  · rename_i hrl
    simp only at h
    split at h
    · cases h
    · rename_i hguard
      simp only [Bool.not_eq_true, Bool.not_eq_false', Bool.and_eq_true, List.all_eq_true] at hguard
      split at h
      · cases h
      · cases h
      · cases h
      · rename_i r hr
        simp only [Result.report.injEq] at h
        obtain ⟨h1, h2⟩ := h
        exact ⟨Nat.le_of_not_lt hrl, hguard.1, hguard.2, r, hr, h1.symm, by rw [← h2, ← h1]⟩

theorem runScript_report {tests : List Test} {runs : List SRan} {outcomes : List Exec.Outcome}
    {status : Nat} (h : runScript tests runs = .report outcomes status) :
    tests.length ≤ runs.length ∧ status = Exec.exitStatus [some outcomes] ∧
    (outcomes = (List.range tests.length).map (fun i => (i, Exec.Verdict.skipped)) ∨
     (outcomes.map (·.1) = List.range tests.length ∧
      ∀ o ∈ outcomes, o.2 = .ok ∨ o.2 = .malformed ∨ ∃ c e, o.2 = .invalidExit c e)) := by
  obtain ⟨hlen, _, _, r, hr, rfl, hst⟩ := runScript_path h
  have hl : (tests.map tcOf).length = tests.length := List.length_map ..
  refine ⟨hlen, hst, ?_⟩
  rcases execScriptBytes_ok hl hr with ⟨i, rfl⟩ | ⟨xs, rfl, hxl, hxc⟩
  · left
    rw [Exec.runDocument_skipped, hl]
  · right
    obtain ⟨h1, h2⟩ := Exec.runDocument_codes (tests.map tcOf) xs (by omega) hxc
    exact ⟨hl ▸ h1, fun o ho => (h2 o.1 o.2 ho).2⟩

theorem runScript_report_inv {tests : List Test} {runs : List SRan} {outcomes : List Exec.Outcome}
    {status : Nat} (hstrip : ScriptStripInert tests runs)
    (h : runScript tests runs = .report outcomes status) :
    ∃ cfg, compileTestcase tests = some cfg ∧ tests.length ≤ runs.length ∧
      ((scriptSkips tests runs = true ∧
          outcomes = (List.range tests.length).map (fun i => (i, Exec.Verdict.skipped))) ∨
       (scriptSkips tests runs = false ∧ (∀ r ∈ runs.take tests.length, r.leaves = false) ∧
          outcomes = Exec.judge (tests.map tcOf) (scriptOuts cfg tests (runs.take tests.length)) 0)) := by
  obtain ⟨hrl, hcode, hsalt, r, hr, rfl, _⟩ := runScript_path h
  have hl : (tests.map tcOf).length = tests.length := List.length_map ..
  obtain ⟨cfg, hcfg, _⟩ := execScriptBytes_ok_inv hl hr
  have hskip : scriptSkipCode tests = cfg.skipCode.getD 80 := by
    unfold scriptSkipCode; rw [hcfg]
  have hinert : cfg.stripAnsi ≠ some true ∨ EscFree (runs.take tests.length) :=
    hstrip.imp (fun hno hs => by
      obtain ⟨t, ht, he⟩ := compiled_stripAnsi_origin hcfg hs
      exact hno t ht he) id
  refine ⟨cfg, hcfg, hrl, ?_⟩
  unfold scriptSkips
  rw [hskip]
  rcases execScriptBytes_inv hl (by rw [List.length_take]; omega) hcfg hcode hsalt hinert hr with
    ⟨⟨k, rfl⟩, hhit⟩ | ⟨hhit, hleave, rfl⟩
  · exact .inl ⟨hhit, by rw [Exec.runDocument_skipped, hl]⟩
  · exact .inr ⟨hhit, hleave, rfl⟩

/-- the bytes `validate` compares for test `t` in the single-script executor: what the test's own
command wrote to the stream its `output_stream` selects (`cfg` = the compiled configuration of
the one script) -/
def scriptSelected (cfg : Compiled) (t : Test) (r : SRan) : Bytes :=
  if t.cfg.outputStream = some .stderr then payErr cfg r else payOut cfg r

/-- the bytes `validate` compares for test `t` in the single-script executor: `render_output` of the
compiled test case (`replace_crlf` unless the compiled `keep_crlf` is `true`) applied to what the
test's OWN command wrote to the stream its `output_stream` selects -/
def scriptRendered (cfg : Compiled) (t : Test) (r : SRan) : Bytes := rend cfg (scriptSelected cfg t r)

theorem runScript_ok_sound_full {tests : List Test} {runs : List SRan} {outcomes : List Exec.Outcome}
    {status i : Nat} (hstrip : ScriptStripInert tests runs)
    (h : runScript tests runs = .report outcomes status)
    (hi : (i, Exec.Verdict.ok) ∈ outcomes) :
    ∃ (t : Test) (r : SRan) (cfg : Compiled), tests[i]? = some t ∧ runs[i]? = some r ∧
      compileTestcase tests = some cfg ∧ r.ran.code = t.expected.getD 0 ∧
      accepts t.exps (scriptRendered cfg t r) = some true ∧
      (∀ r ∈ runs.take tests.length, r.leaves = false) ∧ scriptSkips tests runs = false := by
  obtain ⟨cfg, hcfg, hrl, hcases⟩ := runScript_report_inv hstrip h
  rcases hcases with ⟨_, rfl⟩ | ⟨hhit, hleave, rfl⟩
  · obtain ⟨j, _, he⟩ := List.mem_map.1 hi
    cases he
  · -- test `i`, run `i`, output `i` and `Exec` test case `i` belong together
    obtain ⟨tc, x, htci, hxi, _, hv⟩ := (Exec.mem_judge_zero _ _ i .ok).1 hi
    rw [List.getElem?_map] at htci
    obtain ⟨t, hti, rfl⟩ := Option.map_eq_some_iff.1 htci
    have hil : i < tests.length := (List.getElem?_eq_some_iff.1 hti).1
    have hri : runs[i]? = some (runs[i]'(by omega)) := List.getElem?_eq_getElem (by omega)
    have hx : x = scriptOutOf t (renderedOut cfg (runs[i]'(by omega))) := by
      have hzi : ((runs.take tests.length).map (renderedOut cfg))[i]? =
          some (renderedOut cfg (runs[i]'(by omega))) := by
        rw [List.getElem?_map, List.getElem?_take_of_lt hil, hri]; rfl
      rw [scriptOuts, List.getElem?_map, (List.getElem?_zip_eq_some (z := (t, _))).2 ⟨hti, hzi⟩] at hxi
      exact (Option.some.inj hxi).symm
    subst hx
    obtain ⟨hce, hsel⟩ := (validate_tc_ok_iff t _ _ _ _).1 hv.symm
    refine ⟨t, runs[i]'(by omega), cfg, hti, hri, hcfg, hce, ?_, hleave, hhit⟩
    rw [accepts_eq]
    unfold scriptRendered scriptSelected
    by_cases hs : t.cfg.outputStream = some .stderr
    · rw [if_pos hs] at hsel ⊢; exact congrArg some hsel
    · rw [if_neg hs] at hsel ⊢; exact congrArg some hsel

theorem runScript_skip {tests : List Test} {runs : List SRan} {outcomes : List Exec.Outcome}
    {status : Nat} (hstrip : ScriptStripInert tests runs)
    (h : runScript tests runs = .report outcomes status) :
    (scriptSkips tests runs = true →
      outcomes = (List.range tests.length).map (fun i => (i, Exec.Verdict.skipped)) ∧ status = 0) ∧
    (∀ i, (i, Exec.Verdict.skipped) ∈ outcomes ↔ (i < tests.length ∧ scriptSkips tests runs = true)) ∧
    (∀ o ∈ outcomes, o.2 = .ok ∨ o.2 = .malformed ∨ o.2 = .skipped ∨ ∃ c e, o.2 = .invalidExit c e) := by
  obtain ⟨_, hst, _⟩ := runScript_report h
  obtain ⟨cfg, _, hrl, hcases⟩ := runScript_report_inv hstrip h
  refine Exec.report_shape hst (hcases.imp id ?_)
  rintro ⟨hno, _, rfl⟩
  obtain ⟨h1, h2⟩ := Exec.runDocument_codes (tests.map tcOf) (scriptOuts cfg tests (runs.take tests.length))
    (by simp [scriptOuts]; omega) (fun x hx => by
      obtain ⟨p, _, rfl⟩ := List.mem_map.1 hx
      exact ⟨_, rfl⟩)
  rw [List.length_map] at h1
  exact ⟨hno, h1, fun o ho => (h2 o.1 o.2 ho).2⟩

theorem scriptSkipHit_nil (skip : Int) : scriptSkipHit skip [] = decide (0 = skip) := by
  simp only [scriptSkipHit, scriptExit, beforeLeave, List.takeWhile_nil, List.any_nil, Bool.or_false]
  exact decide_eq_decide.2 Iff.rfl

theorem scriptSkipHit_cons (skip : Int) (r : SRan) (rs : List SRan) :
    scriptSkipHit skip (r :: rs) =
      (decide (r.ran.code = skip) || (!r.leaves && scriptSkipHit skip rs)) := by
  unfold scriptSkipHit beforeLeave
  cases hl : r.leaves <;> simp [scriptExit, hl, Bool.or_left_comm]

/-- the three ways to skip the document: a command in front of which no command left the shell ended
with the skip code -- its divider line carries it, or it is the script's own exit status if that
command itself leaves the shell --, or the skip code is 0 and the script ran to its end (its own
exit status is that of the last `unset`) -/
theorem scriptSkipHit_iff (skip : Int) : ∀ runs : List SRan, scriptSkipHit skip runs = true ↔
    (∃ (i : Nat) (r : SRan), runs[i]? = some r ∧ r.ran.code = skip ∧
      ∀ (j : Nat) (x : SRan), j < i → runs[j]? = some x → x.leaves = false) ∨
    ((∀ x ∈ runs, x.leaves = false) ∧ skip = 0) := by
  intro runs
  induction runs with
  | nil =>
    rw [scriptSkipHit_nil]
    constructor
    · intro h
      exact Or.inr ⟨by simp, by simpa [eq_comm] using h⟩
    · rintro (⟨i, r, hr, _⟩ | ⟨_, h0⟩)
      · simp at hr
      · simp [h0]
  | cons r rs ih =>
    rw [scriptSkipHit_cons, Bool.or_eq_true, Bool.and_eq_true, ih]
    constructor
    · rintro (hc | ⟨hl, hrest⟩)
      · exact Or.inl ⟨0, r, rfl, by simpa using hc, fun j x hj => by omega⟩
      · have hl' : r.leaves = false := by simpa using hl
        rcases hrest with ⟨i, x, hx, hc, hb⟩ | ⟨hall, h0⟩
        · refine Or.inl ⟨i + 1, x, by simpa using hx, hc, ?_⟩
          intro j y hj hy
          cases j with
          | zero => simp at hy; rw [← hy]; exact hl'
          | succ j => exact hb j y (by omega) (by simpa using hy)
        · refine Or.inr ⟨?_, h0⟩
          intro x hx
          rcases List.mem_cons.1 hx with rfl | hx
          · exact hl'
          · exact hall x hx
    · rintro (⟨i, x, hx, hc, hb⟩ | ⟨hall, h0⟩)
      · cases i with
        | zero =>
          simp at hx
          subst hx
          exact Or.inl (by simpa using hc)
        | succ i =>
          have hl' : r.leaves = false := hb 0 r (by omega) rfl
          refine Or.inr ⟨by simp [hl'], Or.inl ⟨i, x, by simpa using hx, hc, ?_⟩⟩
          intro j y hj hy
          exact hb (j + 1) y (by omega) (by simpa using hy)
      · have hl' : r.leaves = false := hall r (by simp)
        exact Or.inr ⟨by simp [hl'], Or.inr ⟨fun x hx => hall x (by simp [hx]), h0⟩⟩

theorem scriptSkips_iff (tests : List Test) (runs : List SRan) : scriptSkips tests runs = true ↔
    (∃ (i : Nat) (r : SRan), i < tests.length ∧ runs[i]? = some r ∧ r.ran.code = scriptSkipCode tests ∧
      ∀ (j : Nat) (x : SRan), j < i → runs[j]? = some x → x.leaves = false) ∨
    ((∀ x ∈ runs.take tests.length, x.leaves = false) ∧ scriptSkipCode tests = 0) := by
  unfold scriptSkips
  rw [scriptSkipHit_iff]
  constructor
  · rintro (⟨i, r, hr, hc, hb⟩ | h)
    · rw [List.getElem?_take] at hr
      split at hr
      · rename_i hi
        refine Or.inl ⟨i, r, hi, hr, hc, ?_⟩
        intro j x hj hx
        exact hb j x hj (by rw [List.getElem?_take_of_lt (by omega)]; exact hx)
      · cases hr
    · exact Or.inr h
  · rintro (⟨i, r, hi, hr, hc, hb⟩ | h)
    · refine Or.inl ⟨i, r, by rw [List.getElem?_take_of_lt hi]; exact hr, hc, ?_⟩
      intro j x hj hx
      rw [List.getElem?_take_of_lt (by omega)] at hx
      exact hb j x hj hx
    · exact Or.inr h

/-! ## `strip_ansi_escaping` in the single-script executor (fix 14f67eb: `set_consistent!(strip_ansi_escaping)`) -/

/-- the test case without the key -/
def clearStrip (t : Test) : Test := { t with cfg := { t.cfg with stripAnsi := none } }

theorem setConsistent_all_none {α : Type} [DecidableEq α] : ∀ (n : Nat),
    setConsistent (none : Option α) (List.replicate n none) = some none := by
  intro n
  induction n with
  | zero => rfl
  | succ n ih => simpa [List.replicate_succ, setConsistent] using ih

theorem setConsistent_all_same {α : Type} [DecidableEq α] (x : α) : ∀ (vs : List (Option α)) (cur : Option α),
    (cur = none ∨ cur = some x) → (∀ v ∈ vs, v = some x) → ∃ a, setConsistent cur vs = some a := by
  intro vs
  induction vs with
  | nil => intro cur _ _; exact ⟨cur, rfl⟩
  | cons v vs ih =>
    intro cur hc hv
    have hv0 : v = some x := hv v (by simp)
    have hvs : ∀ w ∈ vs, w = some x := fun w hw => hv w (by simp [hw])
    rcases hc with hc | hc
    · subst hc
      simp only [setConsistent]
      exact ih v (Or.inr hv0) hvs
    · subst hc
      simp only [setConsistent, hv0, if_true]
      exact ih (some x) (Or.inr rfl) hvs

theorem compileTestcase_clearStrip {tests : List Test} {a : Option Bool}
    (hcons : setConsistent none (tests.map (·.cfg.stripAnsi)) = some a) :
    compileTestcase tests =
      (compileTestcase (tests.map clearStrip)).map (fun c => { c with stripAnsi := a }) := by
  -- on the test cases without the key the other four lists are the same, the fifth holds `none` only
  unfold compileTestcase
  simp only [List.map_map, List.any_map, Function.comp_def, clearStrip, List.map_const',
    setConsistent_all_none, hcons]
  -- both sides are now the same `match` on the four other keys; in each of its cases they agree
  cases setConsistent none (tests.map (·.cfg.detached)) <;>
    cases setConsistent none (tests.map (·.cfg.keepCrlf)) <;>
    cases setConsistent none (tests.map (·.cfg.outputStream)) <;>
    cases setConsistent none (tests.map (·.cfg.skipCode)) <;> simp only [Option.map] <;>
    split <;> rfl

theorem zipScriptOuts_clearStrip (tests : List Test) (outs : List Divider.Out) :
    zipScriptOuts (tests.map clearStrip) outs = zipScriptOuts tests outs := by
  rw [zipScriptOuts_eq, zipScriptOuts_eq, List.zip_map_left, List.map_map]
  rfl

theorem renderOutput_esc_free (k x y : Option Bool) (raw : Bytes) (h : StripAnsi.esc ∉ raw) :
    Crlf.renderOutput k x (fun b => some (StripAnsi.strip b)) raw =
      Crlf.renderOutput k y (fun b => some (StripAnsi.strip b)) raw :=
  (renderOutput_compiled { keepCrlf := k, outputStream := none, skipCode := none, stripAnsi := x } raw
    (.inr h)).trans
    (renderOutput_compiled { keepCrlf := k, outputStream := none, skipCode := none, stripAnsi := y } raw
      (.inr h)).symm
theorem execScriptBytes_strip_no_escape (tests : List Test) (tcs : List Exec.TC) (runs : List SRan)
    (a : Option Bool) (hcons : setConsistent none (tests.map (·.cfg.stripAnsi)) = some a)
    (hesc : EscFree runs) :
    execScriptBytes tests tcs runs = execScriptBytes (tests.map clearStrip) tcs runs := by
  unfold execScriptBytes
  rw [compileTestcase_clearStrip hcons]
  simp only [zipScriptOuts_clearStrip]
  cases compileTestcase (tests.map clearStrip) with
  | none => rfl
  | some c =>
    -- the two sides differ in the key handed to `render_output` of the two raw streams only
    have hout : StripAnsi.esc ∉ (if decide (c.outputStream = some .combined) = true then
        scriptStream (fun r => r.ran.stdout ++ r.ran.stderr) (fun r => r.ran.code.toNat) 0 runs
        else scriptStream (fun r => r.ran.stdout) (fun r => r.ran.code.toNat) 0 runs) := by
      split
      · exact esc_not_mem_scriptStream _ _ runs 0 fun r hr => by
          simp only [List.mem_append, not_or]; exact hesc r hr
      · exact esc_not_mem_scriptStream _ _ runs 0 fun r hr => (hesc r hr).1
    have herr : StripAnsi.esc ∉ (if decide (c.outputStream = some .combined) = true then []
        else scriptStream (fun r => r.ran.stderr) (fun r => r.ran.code.toNat) 0 runs) := by
      split
      · exact List.not_mem_nil
      · exact esc_not_mem_scriptStream _ _ runs 0 fun r hr => (hesc r hr).2
    simp only [Option.map]
    rw [renderOutput_esc_free c.keepCrlf a c.stripAnsi _ hout,
      renderOutput_esc_free c.keepCrlf a c.stripAnsi _ herr]
theorem mapM_tc_clearStrip (tests : List Test) :
    (tests.map clearStrip).mapM (fun t => (accepts t.exps []).map t.tc) =
      tests.mapM (fun t => (accepts t.exps []).map t.tc) := by
  rw [mapM_tc_eq, mapM_tc_eq, List.map_map]
  rfl

theorem runScript_strip_no_escape (tests : List Test) (runs : List SRan) (a : Option Bool)
    (hcons : setConsistent none (tests.map (·.cfg.stripAnsi)) = some a)
    (hesc : EscFree (runs.take tests.length)) :
    runScript tests runs = runScript (tests.map clearStrip) runs := by
  unfold runScript
  simp only [List.length_map, mapM_tc_clearStrip]
  split
  · rfl
  · split
    · rfl
    · cases tests.mapM (fun t => (accepts t.exps []).map t.tc) with
      | none => rfl
      | some tcs =>
        simp only [execScriptBytes_strip_no_escape tests tcs _ a hcons hesc]

/-- `tests` are the prepared tests of the Cram document `bytes` -/
def CramDocTests (bytes : Bytes) (tests : List Test) : Prop :=
  ∃ text pre ts, readFile bytes = .ok text ∧ Cram.parseCram expOk 2 text = .ok (pre, ts) ∧
    ts.mapM prepareCram = .ok tests

/-- `tests` are the prepared tests of the Markdown document `bytes` read under `--cram-compat` -/
def CompatDocTests (bytes : Bytes) (tests : List Test) : Prop :=
  ∃ text p, readFile bytes = .ok text ∧ Markdown.parseMarkdown parseEnv text = .ok p ∧
    p.docConfigs.all frontMatterHarmless = true ∧ p.tests.mapM prepareCompat = .ok tests

theorem testCramDocumentBytes_eq_runScript {bytes : Bytes} {tests : List Test} (runs : List SRan)
    (hd : CramDocTests bytes tests) : testCramDocumentBytes bytes runs = runScript tests runs := by
  obtain ⟨text, pre, ts, h1, h2, h3⟩ := hd
  simp [testCramDocumentBytes, testCramDocument, h1, h2, h3]

theorem testCramDocumentBytes_report_iff (bytes : Bytes) (runs : List SRan)
    (outcomes : List Exec.Outcome) (status : Nat) :
    testCramDocumentBytes bytes runs = .report outcomes status ↔
      ∃ tests, CramDocTests bytes tests ∧ runScript tests runs = .report outcomes status := by
  constructor
  · intro h
    unfold testCramDocumentBytes at h
    split at h
    · cases h
    · cases h
    · rename_i text ht
      unfold testCramDocument at h
      split at h
      · cases h
      · rename_i pre ts hp
        split at h
        · cases h
        · cases h
        · rename_i tests hm
          exact ⟨tests, ⟨text, pre, ts, ht, hp, hm⟩, h⟩
  · rintro ⟨tests, hd, h⟩
    rw [testCramDocumentBytes_eq_runScript runs hd, h]

theorem testDocumentCompatBytes_eq_runScript {bytes : Bytes} {tests : List Test} (runs : List SRan)
    (hd : CompatDocTests bytes tests) : testDocumentCompatBytes bytes runs = runScript tests runs := by
  obtain ⟨text, p, h1, h2, h3, h4⟩ := hd
  simp [testDocumentCompatBytes, testDocumentCompat, h1, h2, h3, h4]

theorem testDocumentCompatBytes_report_iff (bytes : Bytes) (runs : List SRan)
    (outcomes : List Exec.Outcome) (status : Nat) :
    testDocumentCompatBytes bytes runs = .report outcomes status ↔
      ∃ tests, CompatDocTests bytes tests ∧ runScript tests runs = .report outcomes status := by
  constructor
  · intro h
    unfold testDocumentCompatBytes at h
    split at h
    · cases h
    · cases h
    · rename_i text ht
      unfold testDocumentCompat at h
      split at h
      · cases h
      · cases h
      · rename_i p hp
        by_cases hf : p.docConfigs.all frontMatterHarmless = true
        · simp only [hf, Bool.not_true, Bool.false_eq_true, if_false] at h
          split at h
          · cases h
          · cases h
          · rename_i tests hm
            exact ⟨tests, ⟨text, p, ht, hp, hf, hm⟩, h⟩
        · simp [hf] at h
  · rintro ⟨tests, hd, h⟩
    rw [testDocumentCompatBytes_eq_runScript runs hd, h]

/-! ## documents evaluated by the kernel

As in `Lemmas/TestRunProps.lean`: `String.toList_ofList` first, and where the prepared tests of a
document are stated (`ex_cramDocTests`, `ex_crlf_docTests`, `ex_skip0_docTests`) the document is
parsed there and the results are those of `runScript` on the prepared tests. -/

/-- a Cram document with two test cases; the second expects the exit code 1 -/
def exCramBytes : Bytes := Utf8.utf8 "  $ echo a\n  a\n  $ false\n  [1]\n".toList
/-- … its second command ends with 0 -/
def exCramRuns : List SRan := [⟨⟨[97, 10], [], 0⟩, false⟩, ⟨⟨[], [], 0⟩, false⟩]
/-- … its second command ends with the skip code -/
def exCramRunsSkip : List SRan := [⟨⟨[97, 10], [], 0⟩, false⟩, ⟨⟨[], [], 80⟩, false⟩]
/-- … the second command leaves the shell (`exit 1`): fewer dividers than test cases, an execution
error, nothing is reported -/
def exCramRunsLeave : List SRan := [⟨⟨[97, 10], [], 0⟩, false⟩, ⟨⟨[], [], 1⟩, true⟩]
/-- … the first command leaves the shell with the skip code (`exit 80`) -/
def exCramRunsLeaveSkip : List SRan := [⟨⟨[97, 10], [], 80⟩, true⟩, ⟨⟨[], [], 1⟩, false⟩]

/-- the prepared tests of `exCramBytes`: `TestCaseConfig::default_cram()` on both -/
def exCramTests : List Test :=
  [⟨cramDefaults, [⟨.equal [97], false, false⟩], none⟩, ⟨cramDefaults, [], some 1⟩]

theorem ex_cramDocTests : CramDocTests exCramBytes exCramTests := by
  unfold CramDocTests exCramBytes
  refine ⟨"  $ echo a\n  a\n  $ false\n  [1]\n".toList, .defaultCram,
    [{ title := [], command := ["echo a".toList], exitCode := none, expectations := [['a']], lineNumber := 1,
       config := some .defaultCram },
     { title := [], command := ["false".toList], exitCode := some 1, expectations := [], lineNumber := 3,
       config := some .defaultCram }], ?_⟩
  repeat rw [String.toList_ofList]
  decide +kernel

theorem ex_cram_report :
    testCramDocumentBytes exCramBytes exCramRuns = .report [(0, .ok), (1, .invalidExit 0 1)] 50 :=
  (testCramDocumentBytes_eq_runScript _ ex_cramDocTests).trans (by decide +kernel)
theorem ex_cram_skip :
    testCramDocumentBytes exCramBytes exCramRunsSkip = .report [(0, .skipped), (1, .skipped)] 0 :=
  (testCramDocumentBytes_eq_runScript _ ex_cramDocTests).trans (by decide +kernel)
theorem ex_cram_leave : testCramDocumentBytes exCramBytes exCramRunsLeave = .execError :=
  (testCramDocumentBytes_eq_runScript _ ex_cramDocTests).trans (by decide +kernel)
theorem ex_cram_leave_skip :
    testCramDocumentBytes exCramBytes exCramRunsLeaveSkip = .report [(0, .skipped), (1, .skipped)] 0 :=
  (testCramDocumentBytes_eq_runScript _ ex_cramDocTests).trans (by decide +kernel)
theorem ex_cram_scriptSkips :
    scriptSkipCode exCramTests = 80 ∧ scriptSkips exCramTests exCramRunsSkip = true ∧
    scriptSkips exCramTests exCramRunsLeaveSkip = true ∧ scriptSkips exCramTests exCramRuns = false := by
  decide +kernel

theorem ex_compat_report :
    testDocumentCompatBytes (Utf8.utf8 "# t\n\n```scrut\n$ echo a\na\n```\n".toList)
      [⟨⟨[97, 10], [], 0⟩, false⟩] = .report [(0, .ok)] 0 := by
  rw [String.toList_ofList]
  decide +kernel

/-- Markdown under `--cram-compat`, one test with `keep_crlf: false` expecting the line `a` -/
def exCrlfBytes : Bytes := Utf8.utf8 "# t\n\n```scrut {keep_crlf: false}\n$ cmd\na\n```\n".toList
def exCrlfTests : List Test :=
  [⟨{ outputStream := some .combined, keepCrlf := some false, skipCode := some 80 },
    [⟨.equal [97], false, false⟩], none⟩]

theorem ex_crlf_docTests : CompatDocTests exCrlfBytes exCrlfTests := by
  unfold CompatDocTests exCrlfBytes
  refine ⟨"# t\n\n```scrut {keep_crlf: false}\n$ cmd\na\n```\n".toList,
    { docConfigs := [],
      tests := [{ title := ['t'], command := ["cmd".toList], exitCode := none, expectations := [['a']],
                  lineNumber := 4, config := some (some "keep_crlf: false".toList) }] }, ?_⟩
  repeat rw [String.toList_ofList]
  decide +kernel

theorem ex_crlf_runScript :
    runScript exCrlfTests [⟨⟨[97, 13, 10], [], 0⟩, false⟩] = .report [(0, .ok)] 0 := by
  decide +kernel
/-- the command writes `a\r\n`: accepted, CR LF of the whole stream is replaced -/
theorem ex_crlf_report :
    testDocumentCompatBytes exCrlfBytes [⟨⟨[97, 13, 10], [], 0⟩, false⟩] = .report [(0, .ok)] 0 :=
  (testDocumentCompatBytes_eq_runScript _ ex_crlf_docTests).trans ex_crlf_runScript
/-- the command writes `a\r` without a line feed: the CR in front of the divider text stays -/
theorem ex_crlf_report_cr :
    testDocumentCompatBytes exCrlfBytes [⟨⟨[97, 13], [], 0⟩, false⟩] = .report [(0, .malformed)] 50 :=
  (testDocumentCompatBytes_eq_runScript _ ex_crlf_docTests).trans (by decide +kernel)
theorem ex_crlf_rendered :
    compileTestcase exCrlfTests = some ⟨some false, some .combined, some 80, none⟩ ∧
    scriptRendered ⟨some false, some .combined, some 80, none⟩
      ⟨{ outputStream := some .combined, keepCrlf := some false, skipCode := some 80 }, [⟨.equal [97], false, false⟩], none⟩
      ⟨⟨[97, 13, 10], [], 0⟩, false⟩ = [97, 10] := by
  decide +kernel
/-- a CR at the end of an unterminated payload and the divider text form no CR LF -/
theorem ex_chunk_cr :
    Crlf.replaceCrlfSpec (Divider.chunk modelSalt 0 [97, 13] 0) = Divider.chunk modelSalt 0 [97, 13] 0 := by
  decide +kernel

/-- Markdown under `--cram-compat`, one test with `skip_document_code: 0` that expects the exit code 1 -/
def exSkip0Bytes : Bytes := Utf8.utf8 "# t\n\n```scrut {skip_document_code: 0}\n$ false\n[1]\n```\n".toList
def exSkip0Tests : List Test :=
  [⟨{ outputStream := some .combined, keepCrlf := some true, skipCode := some 0 }, [], some 1⟩]
/-- the command ends with 1, as expected, and does not leave the shell -/
def exSkip0Runs : List SRan := [⟨⟨[], [], 1⟩, false⟩]

theorem ex_skip0_docTests : CompatDocTests exSkip0Bytes exSkip0Tests := by
  unfold CompatDocTests exSkip0Bytes
  refine ⟨"# t\n\n```scrut {skip_document_code: 0}\n$ false\n[1]\n```\n".toList,
    { docConfigs := [],
      tests := [{ title := ['t'], command := ["false".toList], exitCode := some 1, expectations := [],
                  lineNumber := 4, config := some (some "skip_document_code: 0".toList) }] }, ?_⟩
  repeat rw [String.toList_ofList]
  decide +kernel

theorem ex_skip0_runScript :
    runScript exSkip0Tests exSkip0Runs = .report [(0, .skipped)] 0 ∧ scriptSkipCode exSkip0Tests = 0 ∧
    ∀ r ∈ exSkip0Runs, r.ran.code ≠ scriptSkipCode exSkip0Tests := by
  decide +kernel
/-- **witness**: with the skip code 0 the document is reported `skipped` although no command ended
with the skip code -- the script's own exit status (that of its last `unset`) is compared with it -/
theorem ex_skip0_report :
    testDocumentCompatBytes exSkip0Bytes exSkip0Runs = .report [(0, .skipped)] 0 :=
  (testDocumentCompatBytes_eq_runScript _ ex_skip0_docTests).trans ex_skip0_runScript.1

/-- Markdown under `--cram-compat`, one test with `strip_ansi_escaping: true` expecting the line `foo` -/
def exStripBytes : Bytes := Utf8.utf8 "# t\n\n```scrut {strip_ansi_escaping: true}\n$ cmd\nfoo\n```\n".toList
/-- the same document without the key -/
def exNoStripBytes : Bytes := Utf8.utf8 "# t\n\n```scrut\n$ cmd\nfoo\n```\n".toList
/-- two tests, the key on both -/
def exStrip2Bytes : Bytes := Utf8.utf8
  "# t\n\n```scrut {strip_ansi_escaping: true}\n$ cmd\nfoo\n```\n\n# u\n\n```scrut {strip_ansi_escaping: true}\n$ cmd\nbar\n```\n".toList
/-- two tests, the key on the first one only -/
def exStripDivBytes : Bytes := Utf8.utf8
  "# t\n\n```scrut {strip_ansi_escaping: true}\n$ cmd\nfoo\n```\n\n# u\n\n```scrut\n$ cmd\nbar\n```\n".toList
/-- `ESC [ 1 m foo ESC [ 0 m LF` -/
def exSgrFoo : Bytes := [27, 91, 49, 109, 102, 111, 111, 27, 91, 48, 109, 10]

/-- **the key has an effect under `--cram-compat`**: the SGR sequences are removed, `foo` accepts -/
theorem ex_strip_report :
    testDocumentCompatBytes exStripBytes [⟨⟨exSgrFoo, [], 0⟩, false⟩] = .report [(0, .ok)] 0 := by
  unfold exStripBytes
  rw [String.toList_ofList]
  decide +kernel
/-- … without the key the same output is not accepted -/
theorem ex_nostrip_report :
    testDocumentCompatBytes exNoStripBytes [⟨⟨exSgrFoo, [], 0⟩, false⟩] = .report [(0, .malformed)] 50 := by
  unfold exNoStripBytes
  rw [String.toList_ofList]
  decide +kernel
/-- the key on every test case: both outputs stripped -/
theorem ex_strip2_report :
    testDocumentCompatBytes exStrip2Bytes
      [⟨⟨exSgrFoo, [], 0⟩, false⟩, ⟨⟨[27, 91, 51, 49, 109, 98, 97, 114, 10], [], 0⟩, false⟩] =
      .report [(0, .ok), (1, .ok)] 0 := by
  unfold exStrip2Bytes
  rw [String.toList_ofList]
  decide +kernel
/-- diverging values: "inconsistent configuration value for strip_ansi_escaping" -/
theorem ex_strip_diverging :
    testDocumentCompatBytes exStripDivBytes [⟨⟨exSgrFoo, [], 0⟩, false⟩, ⟨⟨[98, 97, 114, 10], [], 0⟩, false⟩] =
      .execError := by
  unfold exStripDivBytes
  rw [String.toList_ofList]
  decide +kernel
/-- an unterminated OSC (`ESC ] 0 ; t`) in the first test's output swallows the dividers behind it:
an execution error, not a verdict -/
theorem ex_strip_open_osc :
    testDocumentCompatBytes exStrip2Bytes
      [⟨⟨[102, 111, 111, 10, 27, 93, 48, 59, 116], [], 0⟩, false⟩, ⟨⟨[98, 97, 114, 10], [], 0⟩, false⟩] =
      .execError := by
  unfold exStrip2Bytes
  rw [String.toList_ofList]
  decide +kernel
/-- a lone `ESC` at the end of a command's bytes takes the first `~` of the divider line with it -/
theorem ex_strip_lone_esc :
    testDocumentCompatBytes exStripBytes [⟨⟨[102, 111, 111, 10, 27], [], 0⟩, false⟩] = .execError := by
  unfold exStripBytes
  rw [String.toList_ofList]
  decide +kernel

end Scrut.TestRun
