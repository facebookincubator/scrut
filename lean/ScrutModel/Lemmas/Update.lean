import ScrutModel.Model.UpdateSpec
import ScrutModel.Lemmas.Markdown
import ScrutModel.Lemmas.Basic
/-!
Proofs about the `update` model (`Model/Update.lean`).  The tokenizer's case analysis is the relation `Scan` of
`Lemmas/Markdown.lean` (`scan_top`: every document is scanned); what `update` writes for the tokens of a scan is
`Rewritten` (`scan_rewritten`, by induction on the scan), and `Lemmas/UpdateRetok.lean` reads it back the same way.
-/
namespace Scrut.Update
open Scrut.Markdown Scrut.LineParser

theorem assureNewline_of_no_nl {l : List Char} (h : '\n' ∉ l) : assureNewline l = l ++ ['\n'] := by
  unfold assureNewline
  split
  · rename_i hl
    exact absurd (List.mem_of_getLast? hl) h
  · rfl

theorem unlines_append (a b : List Line) : unlines (a ++ b) = unlines a ++ unlines b := by
  simp [unlines]

theorem unlines_cons (a : Line) (b : List Line) : unlines (a :: b) = a ++ '\n' :: unlines b := by
  simp [unlines]

theorem flatMap_assure (ls : List Line) (h : ∀ l ∈ ls, '\n' ∉ l) :
    ls.flatMap assureNewline = unlines ls := by
  induction ls with
  | nil => rfl
  | cons l r ih =>
    rw [List.flatMap_cons, assureNewline_of_no_nl (h l (by simp)), ih (fun x hx => h x (by simp [hx])), unlines_cons,
      List.append_assoc, List.singleton_append]

theorem commentText_eq_flatMap (cm : Numbered) : commentText cm = (cm.map (·.2)).flatMap assureNewline := by
  simp [commentText, List.flatMap_map]

theorem commentText_eq (cm : Numbered) (h : ∀ c ∈ cm, '\n' ∉ c.2) :
    commentText cm = unlines (cm.map (·.2)) := by
  rw [commentText_eq_flatMap, flatMap_assure]
  intro l hl
  obtain ⟨c, hc, rfl⟩ := List.mem_map.mp hl
  exact h c hc

/-- a line that `str::lines()` reads back as it is -/
def Clean (l : Line) : Prop := '\n' ∉ l ∧ l.getLast? ≠ some '\r'

theorem clean_of_forall {l : Line} (h : ∀ c ∈ l, c ≠ '\n' ∧ c ≠ '\r') : Clean l :=
  ⟨fun hm => (h _ hm).1 rfl, fun hl => (h _ (List.mem_of_getLast? hl)).2 rfl⟩

theorem Clean.append_left {p l : Line} (hp : ∀ c ∈ p, c ≠ '\n' ∧ c ≠ '\r') (hl : Clean l) : Clean (p ++ l) := by
  refine ⟨fun hm => ?_, fun h => ?_⟩
  · rcases List.mem_append.mp hm with hm | hm
    · exact (hp _ hm).1 rfl
    · exact hl.1 hm
  · cases l with
    | nil => rw [List.append_nil] at h; exact (hp _ (List.mem_of_getLast? h)).2 rfl
    | cons c r =>
      have e : (p ++ c :: r).getLast? = (c :: r).getLast? := by rw [List.getLast?_append]; rfl
      exact hl.2 (e ▸ h)

theorem clean_backticks (n : Nat) : Clean (backticks n) :=
  clean_of_forall fun c hc => by rw [List.eq_of_mem_replicate hc]; decide

theorem clean_front : Clean frontMatterFence := ⟨by decide, by decide⟩

theorem number_length (s : Nat) (body : List Line) : (number s body).length = body.length := by
  induction body generalizing s with
  | nil => rfl
  | cons l r ih => simp [number, ih]

theorem configSuffix_cfgLines (i : Nat) (config : Line) :
    configSuffix (cfgLines i config) = configSuffix (cfgLines 0 config) := by
  unfold cfgLines
  cases stripBraces config <;> simp [configSuffix, joinNumbered]

theorem foldl_max_ge {α : Type} (f : α → Nat) (ls : List α) : ∀ (m : Nat),
    m ≤ ls.foldl (fun m l => max (f l) m) m ∧ ∀ l ∈ ls, f l ≤ ls.foldl (fun m l => max (f l) m) m := by
  induction ls with
  | nil => intro m; simp
  | cons x r ih =>
    intro m
    have := ih (max (f x) m)
    refine ⟨Nat.le_trans (Nat.le_max_right _ _) this.1, ?_⟩
    intro l hl
    rcases List.mem_cons.mp hl with rfl | hl
    · exact Nat.le_trans (Nat.le_max_left _ _) this.1
    · exact this.2 l hl

theorem two_le_maxBacktickSize (g : List Char) : 2 ≤ maxBacktickSize g :=
  (foldl_max_ge leadingBackticks (splitLines g) 2).1

theorem splitLinesAux_no_nl (text : List Char) :
    ∀ (acc : List Char), '\n' ∉ acc → ∀ l ∈ splitLinesAux text acc, '\n' ∉ l := by
  induction text with
  | nil =>
    intro acc hacc l hl
    simp only [splitLinesAux] at hl
    split at hl
    · simp at hl
    · simp only [List.mem_singleton] at hl
      subst hl
      simpa using hacc
  | cons c rest ih =>
    intro acc hacc l hl
    simp only [splitLinesAux] at hl
    split at hl
    · rcases List.mem_cons.mp hl with h | h
      · subst h
        split
        · rename_i acc' _
          intro hm
          exact hacc (List.mem_cons_of_mem _ (List.mem_reverse.mp hm))
        · simpa using hacc
      · exact ih [] (by simp) l h
    · rename_i hc
      exact ih (c :: acc) (by simp; exact ⟨fun h => hc h.symm, hacc⟩) l hl

theorem splitLines_no_nl (text : List Char) : ∀ l ∈ splitLines text, '\n' ∉ l :=
  splitLinesAux_no_nl text [] (by simp)

theorem generateUpdate_eq (L : List Line) (doc : List Char) {gens : List (Option (List Char))} (hne : gens ≠ []) :
    generateUpdate L doc gens = emit gens 0 (runP L .top false 0 (splitLines doc)) := by
  have : gens.isEmpty = false := by simpa using hne
  simp only [generateUpdate, this, tokenize_eq, Bool.false_eq_true, if_false]

theorem emit_nil_ok {gens : List (Option (List Char))} {k : Nat} {r : List Char}
    (h : emit gens k [] = .ok r) : r = [] := by
  simp only [emit] at h
  injection h with h
  exact h.symm

theorem emit_cons_ok {gens : List (Option (List Char))} {k : Nat} {t : Tok} {r : List Tok} {out : List Char}
    (h : emit gens k (t :: r) = .ok out) :
    ∃ s k' rest, emitTok gens k t = .ok (s, k') ∧ emit gens k' r = .ok rest ∧ out = s ++ rest := by
  simp only [emit] at h
  cases h1 : emitTok gens k t with
  | error e => rw [h1] at h; cases h
  | ok p =>
    obtain ⟨s, k'⟩ := p
    rw [h1] at h
    simp only [] at h
    cases h2 : emit gens k' r with
    | error e => rw [h2] at h; cases h
    | ok rest =>
      rw [h2] at h
      simp only [] at h
      injection h with h
      exact ⟨s, k', rest, rfl, h2, h.symm⟩

/-- a token that is written whatever the outcomes are (`ht` holds by `rfl` for every token but a scrut block) -/
theorem emit_plain_ok {gens : List (Option (List Char))} {k : Nat} {t : Tok} {r : List Tok} {s out : List Char}
    (ht : ∀ k, emitTok gens k t = .ok (s, k)) (h : emit gens k (t :: r) = .ok out) :
    ∃ rest, emit gens k r = .ok rest ∧ out = s ++ rest := by
  obtain ⟨s', k', rest, h1, h2, h3⟩ := emit_cons_ok h
  rw [ht k] at h1
  injection h1 with h1
  injection h1 with hs hk
  subst hs hk
  exact ⟨rest, h2, h3⟩

theorem emitTok_test_ok {gens : List (Option (List Char))} {k k' : Nat} {language : Line}
    {cfg comments code : Numbered} {s : List Char}
    (h : emitTok gens k (.test language cfg comments code) = .ok (s, k')) :
    (code = [] ∧ s = testBlock (backticks 3) language cfg comments [] ∧ k' = k) ∨
    (code ≠ [] ∧ ∃ g, gens[k]? = some (some g) ∧
      s = testBlock (backticks (maxBacktickSize g + 1)) language cfg comments g ∧ k' = k + 1) := by
  simp only [emitTok] at h
  split at h
  · rename_i hce
    injection h with h
    injection h with h1 h2
    exact .inl ⟨by simpa using hce, h1.symm, h2.symm⟩
  · rename_i hce
    split at h
    · cases h
    · cases h
    · rename_i g hg
      injection h with h
      injection h with h1 h2
      exact .inr ⟨by simpa using hce, g, hg, h1.symm, h2.symm⟩

theorem testBlock_eq_blockText (bt : Line) (hbt : '\n' ∉ bt) (i : Nat) (language config : Line) (comments : Numbered)
    (g : List Char) (hcm : ∀ c ∈ comments, '\n' ∉ c.2) :
    testBlock bt language (cfgLines i config) comments g = blockText bt language config (comments.map (·.2)) g := by
  simp only [testBlock, blockText, commentText_eq comments hcm, configSuffix_cfgLines i config,
    assureNewline_of_no_nl hbt, List.append_assoc]

theorem emitTok_test {gens : List (Option (List Char))} {k k' : Nat} {language config : Line} {i j : Nat}
    {comments code : Numbered} {s : List Char} {body : List Line}
    (hcc : comments ++ code = number j body) (hnl : ∀ l ∈ body, '\n' ∉ l)
    (h : emitTok gens k (.test language (cfgLines i config) comments code) = .ok (s, k')) :
    BlockOut gens k body language config s k' := by
  have hmap : comments.map (·.2) ++ code.map (·.2) = body := by
    have := congrArg (List.map (·.2)) hcc
    simpa [number_map_snd] using this
  have hcm : ∀ c ∈ comments, '\n' ∉ c.2 := by
    intro c hc
    apply hnl
    rw [← hmap]
    exact List.mem_append_left _ (List.mem_map_of_mem hc)
  refine ⟨comments.map (·.2), code.map (·.2), hmap, ?_⟩
  rcases emitTok_test_ok h with ⟨rfl, rfl, rfl⟩ | ⟨hce, g, hg, rfl, rfl⟩
  · exact .inl ⟨rfl, testBlock_eq_blockText _ (clean_backticks 3).1 i language config comments [] hcm, rfl⟩
  · exact .inr ⟨by simpa using hce, g, hg, testBlock_eq_blockText _ (clean_backticks _).1 i language config comments g hcm, rfl⟩

theorem docConfig_text (j : Nat) (body : List Line) (hnl : ∀ l ∈ body, '\n' ∉ l) :
    ['-', '-', '-', '\n'] ++ commentText (number j body) ++ ['-', '-', '-', '\n']
      = unlines (frontMatterFence :: (body ++ [frontMatterFence])) := by
  rw [commentText_eq_flatMap, number_map_snd, flatMap_assure _ hnl, unlines_cons, unlines_append]
  simp [unlines, frontMatterFence]

/-- `frontClosed` tells a closed front-matter from one that runs to the end of the document by comparing positions
with the number `N` of lines, so `N` is carried along with the position `li` -/
theorem Scan.toStrict {L : List Line} {cs : Bool} {li : Nat} {src : List Line} {toks : List Tok}
    (h : Scan L false cs li src toks) :
    ∀ N, li + src.length = N → frontClosed N li toks = true → Scan L true cs li src toks := by
  induction h with
  | nil cs li => intro N _ _; exact .nil cs li
  | line cs li l rest toks hfm hf _ ih =>
    intro N hN hfc
    exact .line cs li l rest toks hfm hf (ih N (by simp at hN; omega) hfc)
  | front li body rest toks hb _ ih =>
    intro N hN hfc
    simp only [frontClosed, number_length, Bool.and_eq_true] at hfc
    have e : li + body.length + 2 = li + 1 + body.length + 1 := by omega
    exact .front li body rest toks hb (ih N (by simp at hN; omega) (e ▸ hfc.2))
  | frontOpen li body _ hb =>
    -- the closing `---` would be line `li + body.length + 1` of a document of that many lines
    intro N hN hfc
    simp only [frontClosed, number_length, Bool.and_true, decide_eq_true_eq] at hfc
    simp at hN
    omega
  | verb cs li opener bt language config body closer rest toks hf hl hb hc _ ih =>
    intro N hN hfc
    refine .verb cs li opener bt language config body closer rest toks hf hl hb hc
      (ih N (by simp at hN; omega) ?_)
    simp only [frontClosed, tokSpan, List.length_cons, List.length_append] at hfc
    have e : li + (body.length + closer.toList.length + 1) = li + 1 + body.length + closer.toList.length := by omega
    exact e ▸ hfc
  | test cs li opener bt language config body closer rest toks comments code hf hl hb hc hcc hcm hrest ih =>
    intro N hN hfc
    refine .test cs li opener bt language config body closer rest toks comments code hf hl hb hc hcc hcm
      (ih N (by simp at hN; omega) ?_)
    cases closer with
    | none =>
      -- nothing follows a block that runs to the end of the document
      obtain rfl : rest = [] := hc
      cases hrest
      rfl
    | some c =>
      have hlen : comments.length + code.length = body.length := by
        have := congrArg List.length hcc
        simpa [number_length] using this
      simp only [frontClosed, tokSpan] at hfc
      have e : li + (comments.length + code.length + 2) = li + 1 + body.length + [c].length := by
        simp only [List.length_singleton]; omega
      exact e ▸ hfc

theorem scan_rewritten (L : List Line) (gens : List (Option (List Char))) {strict cs : Bool}
    {li : Nat} {src : List Line} {toks : List Tok} (hs : Scan L strict cs li src toks) :
    ∀ (k : Nat) (out : List Char), (∀ l ∈ src, '\n' ∉ l) →
      emit gens k toks = .ok out → Rewritten L gens strict k src out := by
  induction hs with
  | nil cs li =>
    intro k out _ h
    rw [emit_nil_ok h]
    exact .nil k
  | line cs li l rest toks _ hf _ ih =>
    intro k out hnl h
    obtain ⟨r, h2, rfl⟩ := emit_plain_ok (fun _ => rfl) h
    rw [assureNewline_of_no_nl (hnl l (by simp)), List.append_assoc, List.singleton_append]
    exact .line k l rest r (by rw [extractCodeBlockStart_eq, hf]) (ih k r (fun x hx => hnl x (by simp [hx])) h2)
  | front li body rest toks hb _ ih =>
    intro k out hnl h
    obtain ⟨r, h2, rfl⟩ := emit_plain_ok (fun _ => rfl) h
    rw [docConfig_text _ body (fun x hx => hnl x (by simp [hx]))]
    exact .front k body rest r hb (ih k r (fun x hx => hnl x (by simp [hx])) h2)
  | frontOpen li body hs hb =>
    intro k out hnl h
    obtain ⟨r, h2, rfl⟩ := emit_plain_ok (fun _ => rfl) h
    rw [emit_nil_ok h2, docConfig_text _ body (fun x hx => hnl x (by simp [hx])), List.append_nil]
    exact .frontOpen k body hs hb
  | verb cs li opener bt language config body closer rest toks hf hl hb hc _ ih =>
    intro k out hnl h
    obtain ⟨r, h2, rfl⟩ := emit_plain_ok (fun _ => rfl) h
    rw [flatMap_assure _ (fun x hx => hnl x (by
      simp only [List.mem_cons, List.mem_append] at hx ⊢
      rcases hx with h | h | h <;> simp [h]))]
    exact .foreign k opener bt language config body closer rest r (by rw [extractCodeBlockStart_eq, hf]) hl hb hc
      (ih k r (fun x hx => hnl x (by simp [hx])) h2)
  | test cs li opener bt language config body closer rest toks comments code hf hl hb hc hcc _ _ ih =>
    intro k out hnl h
    obtain ⟨s, k', r, h1, h2, rfl⟩ := emit_cons_ok h
    exact .block k k' opener bt language config body closer rest s r (by rw [extractCodeBlockStart_eq, hf]) hl hb hc
      (emitTok_test hcc (fun x hx => hnl x (by simp [hx])) h1) (ih k' r (fun x hx => hnl x (by simp [hx])) h2)

theorem emitTok_error {gens : List (Option (List Char))} {k : Nat} {t : Tok} {e : Err}
    (h : emitTok gens k t = .error e) :
    (e = .noOutcome k ∧ gens[k]? = none) ∨ (e = .generate k ∧ gens[k]? = some none) := by
  cases t with
  | line _ _ => cases h
  | docConfig _ => cases h
  | verbatim _ _ _ => cases h
  | test language cfg cm cd =>
    simp only [emitTok] at h
    split at h
    · cases h
    · split at h
      · rename_i hg
        injection h with h
        exact .inl ⟨h.symm, hg⟩
      · rename_i hg
        injection h with h
        exact .inr ⟨h.symm, hg⟩
      · cases h

theorem emit_error (gens : List (Option (List Char))) (toks : List Tok) :
    ∀ (k : Nat) (e : Err), emit gens k toks = .error e →
      (∃ i, e = .noOutcome i ∧ gens[i]? = none) ∨ (∃ i, e = .generate i ∧ gens[i]? = some none) := by
  induction toks with
  | nil => intro k e h; simp [emit] at h
  | cons t r ih =>
    intro k e h
    simp only [emit] at h
    cases h1 : emitTok gens k t with
    | error e' =>
      rw [h1] at h
      injection h with h
      subst h
      rcases emitTok_error h1 with h | h
      · exact .inl ⟨k, h⟩
      · exact .inr ⟨k, h⟩
    | ok p =>
      rw [h1] at h
      simp only [] at h
      cases h2 : emit gens p.2 r with
      | error e' =>
        rw [h2] at h
        injection h with h
        subst h
        exact ih p.2 e' h2
      | ok rest => rw [h2] at h; cases h

theorem generateUpdate_no_outcomes (L : List Line) (doc : List Char) : generateUpdate L doc [] = .ok doc := by
  simp [generateUpdate]

theorem generateUpdate_rewritten (L : List Line) (doc : List Char) (gens : List (Option (List Char)))
    (hne : gens ≠ []) (out : List Char) (h : generateUpdate L doc gens = .ok out) :
    Rewritten L gens false 0 (splitLines doc) out := by
  rw [generateUpdate_eq L doc hne] at h
  exact scan_rewritten L gens (scan_top L _ _ (Nat.le_refl _) false 0) 0 out (splitLines_no_nl doc) h

theorem generateUpdate_rewritten_strict (L : List Line) (doc : List Char) (gens : List (Option (List Char)))
    (hne : gens ≠ []) (out : List Char) (h : generateUpdate L doc gens = .ok out)
    (toks : List Tok) (ht : tokenize L (splitLines doc) = .ok toks)
    (hf : frontClosed (splitLines doc).length 0 toks = true) :
    Rewritten L gens true 0 (splitLines doc) out := by
  rw [generateUpdate_eq L doc hne] at h
  rw [tokenize_eq] at ht
  injection ht with ht
  subst ht
  exact scan_rewritten L gens ((scan_top L _ _ (Nat.le_refl _) false 0).toStrict _ (by simp) hf) 0 out
    (splitLines_no_nl doc) h

theorem emitTok_sameTexts (gens : List (Option (List Char))) (k : Nat) (t t' : Tok) (h : sameTexts t t') :
    emitTok gens k t' = emitTok gens k t := by
  -- tokens of different kinds never have the same texts
  cases t <;> cases t' <;> simp only [sameTexts] at h
  · -- two lines
    subst h; rfl
  · -- two front-matters
    simp only [emitTok, commentText_eq_flatMap, h]
  · -- two scrut blocks
    obtain ⟨h1, h2, h3, h4⟩ := h
    subst h1
    simp only [emitTok, testBlock, h2, commentText_eq_flatMap, h3, h4]
  · -- two foreign blocks
    subst h; rfl

theorem emit_sameTexts (gens : List (Option (List Char))) (toks toks' : List Tok)
    (h : AllSame toks toks') : ∀ k, emit gens k toks' = emit gens k toks := by
  induction h with
  | nil => intro k; rfl
  | cons hab _ ih =>
    intro k
    simp only [emit, emitTok_sameTexts gens k _ _ hab]
    cases emitTok gens k _ with
    | error e => rfl
    | ok p => simp only [ih]

end Scrut.Update
