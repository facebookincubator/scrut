import ScrutModel.Lemmas.GeneratePieces
import ScrutModel.Lemmas.Grammar
import ScrutModel.Lemmas.Newline
/-!
# C09: what `generate_expectation_line` writes reads back as an expectation that matches the line
-/
namespace Scrut.GenLemmas
open Scrut.Utf8 Scrut.Esc Scrut.EscF Scrut.Rules Scrut.EscLemmas Scrut.Gen
open Scrut.Grammar (Params Modifier parse makeRule lookupKind orEqual unicodeWhite endsLikeModifier)

/-- `Rule::matches` of the three string rules on the expression bytes an `Expectation` holds
(`EqualRule`, `EqualNoEolRule`, `EscapedRule`; see `Model/RulesStr.lean`) -/
def strRuleMatches (k : Grammar.Kind) (expr line : List UInt8) : Bool :=
  match k with
  | .equal => assureNewline expr == line
  | .noEol => expr == line
  | .escaped => escapedMatches expr line
  | _ => false

theorem isLine_cases {l : List UInt8} (h : Newline.IsLine l) :
    NoLF (trimNewlines l) ∧
    ((endsWithLF l = true ∧ l = trimNewlines l ++ [10]) ∨ (endsWithLF l = false ∧ l = trimNewlines l)) := by
  obtain ⟨hne, hlf⟩ := h
  rcases List.eq_nil_or_concat l with h0 | ⟨init, last, hcc⟩
  · exact absurd h0 hne
  · rw [List.concat_eq_append] at hcc
    subst hcc
    have hinit : NoLF init := by
      intro b hb hb10
      obtain ⟨i, hi, rfl⟩ := List.getElem_of_mem hb
      have hi' : i < (init ++ [last]).length := by simp; omega
      have := hlf i hi' (by
        rw [List.getElem_append_left hi]
        show init[i] = 10
        exact UInt8.toNat_inj.mp (by simpa using hb10))
      simp at this
      omega
    by_cases hlast : last = 10
    · subst hlast
      have ht : trimNewlines (init ++ [10]) = init := by
        rw [trimNewlines_append_lf, trimNewlines_noLF hinit]
      rw [ht]
      exact ⟨hinit, Or.inl ⟨by simp [endsWithLF], rfl⟩⟩
    · have hall : NoLF (init ++ [last]) := by
        intro b hb
        rcases List.mem_append.mp hb with h | h
        · exact hinit b h
        · have : b = last := by simpa using h
          subst this
          intro h10
          exact hlast (UInt8.toNat_inj.mp (by simpa using h10))
      rw [trimNewlines_noLF hall]
      refine ⟨hall, Or.inr ⟨?_, rfl⟩⟩
      simp [endsWithLF, hlast]

theorem utf8_printable {cs : List Char} (h : ∀ c ∈ cs, PrintableAscii c) :
    hasUnprintableAscii (utf8 cs) = false := by
  simp only [hasUnprintableAscii, List.any_eq_false, utf8, List.mem_flatMap]
  rintro b ⟨c, hc, hb⟩
  have hp := h c hc
  unfold PrintableAscii at hp
  rw [utf8EncodeChar_of_lt c (by omega)] at hb
  have : b = UInt8.ofNat c.toNat := by simpa using hb
  subst this
  simp [printableByte, tn c.toNat (by omega)]
  omega

theorem written_kind (m : Mode) (isOther : Char → Bool) (hC : m = .unicode → AsciiContract isOther)
    (bs : List UInt8) :
    (written m isOther bs).1 = if hasUnprintable m isOther bs then .escaped else .equal := by
  -- `written` compares the bytes with their printable form; they agree iff nothing is unprintable
  have key : ∀ b : Bool, lossyEq bs (escapedPrintable m isOther bs) = !b →
      (written m isOther bs).1 = if b then .escaped else .equal := by
    intro b hb
    cases b <;> simp [written, hb]
  apply key
  cases m with
  | ascii =>
    simp only [hasUnprintable, escapedPrintable]
    cases hu : hasUnprintableAscii bs with
    | false => simp [escapedPrintableAscii, hu, lossyEq_printable hu]
    | true =>
      simp only [Bool.not_true]
      cases hl : lossyEq bs (escapedPrintableAscii bs) with
      | false => rfl
      | true =>
        have := utf8_of_lossyEq hl
        have hp := utf8_printable (escapedPrintableAscii_printable bs)
        rw [this, hu] at hp
        cases hp
  | unicode =>
    have hC := hC rfl
    simp only [hasUnprintable, hasUnprintableUnicode, escapedPrintable, escapedPrintableUnicode, lossyEq]
    cases hd : utf8Decode bs with
    | none => simp
    | some cs =>
      simp only
      cases ha : cs.any isOther with
      | false => simp [renderText_of_no_other cs ha]
      | true =>
        simp only [Bool.not_true, beq_eq_false_iff_ne, ne_eq]
        intro heq
        have hno := renderText_not_other hC cs
        rw [← heq] at hno
        have : cs.any isOther = false := by
          simp only [List.any_eq_false]
          intro c hc
          simp [hno c hc]
        rw [ha] at this
        cases this

/-- the generator's test `is_exit_code` is the parser's `EXIT_CODE_EXPRESSION.is_match` -/
theorem isExitCodeShaped_eq_form (t : List Char) : isExitCodeShaped t = LineParser.isExitCodeForm t := rfl

theorem isExitCodeForm_paren (t : List Char) : LineParser.isExitCodeForm (t ++ [')']) = false := by
  unfold LineParser.isExitCodeForm
  split
  · rename_i rest heq
    cases t with
    | nil => simp at heq
    | cons a r =>
      have hr : rest = r ++ [')'] := by
        have := (List.cons.inj heq).2
        exact this.symm
      subst hr
      simp
  · rfl

theorem extractExitCode_paren (t : List Char) : LineParser.extractExitCode (t ++ [')']) = none :=
  LineParser.extractExitCode_of_not_form (isExitCodeForm_paren t)

theorem extractExitCode_of_not_shaped {t : List Char} (h : isExitCodeShaped t = false) :
    LineParser.extractExitCode t = none :=
  LineParser.extractExitCode_of_not_form h

theorem commandLead_backslash (r : List Char) : commandLead ('\\' :: r) = none := by
  unfold commandLead
  split
  · rename_i c r' heq
    have : c = '\\' := ((List.cons.inj heq).1).symm
    subst this
    simp
  · rfl

theorem commandLead_some {t : List Char} {c : Char} (h : commandLead t = some c) :
    (c = '$' ∨ c = '>') ∧ ∃ r, t = c :: ' ' :: r := by
  unfold commandLead at h
  split at h
  · rename_i c0 r
    split at h
    · rename_i hc
      have : c0 = c := by simpa using h
      subst this
      exact ⟨hc, r, rfl⟩
    · cases h
  · cases h

theorem commandLead_none_strip {t : List Char} (h : commandLead t = none) :
    LineParser.stripPrefix ['$', ' '] t = none ∧ LineParser.stripPrefix ['>', ' '] t = none := by
  unfold commandLead at h
  split at h
  · rename_i c r
    split at h
    · cases h
    · rename_i hc
      have h1 : c ≠ '$' := fun e => hc (Or.inl e)
      have h2 : c ≠ '>' := fun e => hc (Or.inr e)
      simp [LineParser.stripPrefix, Ne.symm h1, Ne.symm h2]
  · rename_i hne
    constructor
    all_goals
      match t, hne with
      | [], _ => rfl
      | [a], _ => simp [LineParser.stripPrefix]
      | a :: b :: r, hne =>
        have hb : b ≠ ' ' := fun e => hne a r (by rw [e])
        simp [LineParser.stripPrefix, Ne.symm hb]

theorem not_mem_nl_of_utf8 {w : List Char} {bs : List UInt8} (h : utf8 w = bs) (hlf : NoLF bs) : '\n' ∉ w := by
  intro hm
  have := mem_utf8 hm 10 (by rw [utf8EncodeChar_lf]; simp)
  rw [h] at this
  exact hlf 10 this (by decide)

theorem isSuffixOf_append_right (s w mk : List Char) : (s ++ mk).isSuffixOf (w ++ mk) = s.isSuffixOf w := by
  rw [Bool.eq_iff_iff]
  simp only [List.isSuffixOf_iff_suffix]
  constructor
  · rintro ⟨t, ht⟩
    refine ⟨t, ?_⟩
    have : (t ++ s) ++ mk = w ++ mk := by simpa using ht
    exact List.append_cancel_right this
  · rintro ⟨t, ht⟩
    exact ⟨t, by simp [← ht]⟩

theorem guardNoEol_of_not {t : List Char} (h : (noEolMod ++ escapedMod).isSuffixOf t = false) :
    guardNoEol t = t := by
  simp [guardNoEol, stripSuffix?, h]

theorem guardNoEol_marker_of_not {w : List Char} (h : noEolMod.isSuffixOf w = false) :
    guardNoEol (w ++ escapedMod) = w ++ escapedMod :=
  guardNoEol_of_not (by rw [isSuffixOf_append_right]; exact h)

theorem guardNoEol_marker (body : List Char) :
    guardNoEol (body ++ noEolMod ++ escapedMod) = body ++ x20NoEol ++ escapedMod := by
  have hs : (noEolMod ++ escapedMod).isSuffixOf (body ++ noEolMod ++ escapedMod) = true := by
    rw [isSuffixOf_append_right]
    simp [List.isSuffixOf_iff_suffix]
  have ht : (body ++ noEolMod ++ escapedMod).take
      ((body ++ noEolMod ++ escapedMod).length - (noEolMod ++ escapedMod).length) = body := by
    rw [List.append_assoc]
    apply List.take_left'
    simp
  simp only [guardNoEol, stripSuffix?, hs, if_true, ht]

theorem suffix_cases (w : List Char) :
    noEolMod.isSuffixOf w = false ∨ ∃ body, w = body ++ noEolMod := by
  cases h : noEolMod.isSuffixOf w with
  | false => exact Or.inl rfl
  | true =>
    obtain ⟨t, ht⟩ := List.isSuffixOf_iff_suffix.mp h
    exact Or.inr ⟨t, ht.symm⟩

theorem isSuffixOf_append_of_le {s m : List Char} (hlen : s.length ≤ m.length) (e : List Char) :
    s.isSuffixOf (e ++ m) = s.isSuffixOf m := by
  rw [Bool.eq_iff_iff, List.isSuffixOf_iff_suffix, List.isSuffixOf_iff_suffix]
  exact ⟨fun h => List.suffix_of_suffix_length_le h (List.suffix_append e m) hlen,
    fun h => h.trans (List.suffix_append e m)⟩

theorem not_isSuffixOf_append {s m : List Char} (hlen : m.length ≤ s.length) (hne : m.isSuffixOf s = false)
    (e : List Char) : s.isSuffixOf (e ++ m) = false := by
  cases h : s.isSuffixOf (e ++ m) with
  | false => rfl
  | true =>
    have hs := List.suffix_of_suffix_length_le (List.suffix_append e m) (List.isSuffixOf_iff_suffix.mp h) hlen
    rw [List.isSuffixOf_iff_suffix.mpr hs] at hne
    cases hne

theorem endsWithNoEol_x20 (body : List Char) : endsWithNoEol (body ++ x20NoEol) = false := by
  unfold endsWithNoEol
  rw [isSuffixOf_append_of_le (by decide)]
  decide

theorem stripNoEol_of_not {w : List Char} (h : endsWithNoEol w = false) : Grammar.stripNoEol w = w := by
  unfold Grammar.stripNoEol
  split
  · rename_i body hb
    rw [Grammar.stripSuffix_eq_some.mp hb, endsWithNoEol, isSuffixOf_append_of_le (by decide)] at h
    exact absurd h (by decide)
  · rfl

theorem marker_eq : escapedMod =
    [' ', '('] ++ Grammar.Kind.escaped.name ++ Grammar.quantStr false false ++ [')'] := by decide +kernel

theorem endsLike_of_suffix {e : List Char} (h : (noEolMod ++ escapedMod).isSuffixOf e = true) :
    endsLikeModifier unicodeWhite e = true := by
  obtain ⟨t, ht⟩ := List.isSuffixOf_iff_suffix.mp h
  have hm := Grammar.render_kind_modifier (W := unicodeWhite) (by decide) (t ++ noEolMod) .escaped false false
  have he : e = t ++ noEolMod ++ [' ', '('] ++ Grammar.Kind.escaped.name ++ Grammar.quantStr false false ++ [')'] := by
    rw [← ht, marker_eq]; simp
  rw [he]
  exact Grammar.endsLike_of_modifier (fun _ h => h) hm

/-- the two parameters of the grammar model that matter here, as the real code has them:
`\s` is Unicode white space, and the `escaped` constructor (after the ` (no-eol)` strip, which
`Grammar.makeRule` does itself) is `apply_escaped_filter_bytes` -/
structure StdParams (P : Params) : Prop where
  white : ∀ c, P.isWhite c = unicodeWhite c
  escaped : ∀ e, P.make .escaped e = decode e

/-- the parameters as the real code has them; the constructors of the pattern kinds (`glob`,
`regex`) and the renderer's escaper stay arbitrary: no generated line uses them -/
def stdParams (mkGlob mkRegex : List Char → Option (List UInt8)) : Params :=
  { isWhite := unicodeWhite
    make := fun k e => match k with
      | .escaped => decode e
      | .glob => mkGlob e
      | .regex => mkRegex e
      | _ => none
    escPrintable := fun _ => []
    hasUnprintable := fun _ => false
    isSpaceStd := unicodeWhite }

theorem stdParams_std (mkGlob mkRegex : List Char → Option (List UInt8)) :
    StdParams (stdParams mkGlob mkRegex) := ⟨fun _ => rfl, fun _ => rfl⟩

/-- what C09 asks of the text `t` written for the output line `l`: it is one line, it is read as
an expectation (neither `$ `/`> ` nor an exit code), and it parses to an unquantified `equal`,
`no-eol` or `escaped` expectation whose rule matches `l` -/
structure LineOK (P : Params) (l : List UInt8) (t : List Char) : Prop where
  no_nl : '\n' ∉ t
  no_lead : commandLead t = none
  /-- not of the form `^\[[0-9]+\]$`: neither an exit code nor the error `exitCodeOutOfRange` -/
  no_exit : LineParser.isExitCodeForm t = false
  /-- `str::lines()` would drop a final carriage return -/
  no_cr : t.getLast? ≠ some '\r'
  parses : ∃ e, parse P t = .ok e ∧ e.optional = false ∧ e.multiline = false ∧
      (e.kind = .equal ∨ e.kind = .noEol ∨ e.kind = .escaped) ∧ strRuleMatches e.kind e.expr l = true

/-- ` (<kind>)` -/
def kindMod (k : Grammar.Kind) : List Char := [' ', '('] ++ k.name ++ [')']

theorem noEolMod_eq : noEolMod = kindMod .noEol := by decide +kernel
theorem equalMod_eq : equalMod = kindMod .equal := by decide +kernel
theorem escapedMod_eq : escapedMod = kindMod .escaped := by decide +kernel

theorem kindMod_no_nl (k : Grammar.Kind) : '\n' ∉ kindMod k := by cases k <;> decide

theorem kindMod_line {P : Params} (hP : StdParams P) (p : List Char) (k : Grammar.Kind) (hnl : '\n' ∉ p) :
    '\n' ∉ p ++ kindMod k ∧ LineParser.isExitCodeForm (p ++ kindMod k) = false ∧
    parse P (p ++ kindMod k) = match makeRule P k p with
      | none => .error .makeError
      | some b => .ok ⟨k, b, false, false⟩ := by
  have hnl' : '\n' ∉ p ++ kindMod k := by
    intro h
    rcases List.mem_append.mp h with h | h
    · exact hnl h
    · exact kindMod_no_nl k h
  refine ⟨hnl', ?_, ?_⟩
  · have : p ++ kindMod k = (p ++ [' ', '('] ++ k.name) ++ [')'] := by simp [kindMod]
    rw [this]
    exact isExitCodeForm_paren _
  · have hw : P.isWhite ' ' = true := by rw [hP.white]; decide
    have hm := Grammar.render_kind_modifier (W := P.isWhite) hw p k false false
    have he : p ++ [' ', '('] ++ k.name ++ Grammar.quantStr false false ++ [')'] = p ++ kindMod k := by
      simp [kindMod, Grammar.quantStr, Grammar.quantOpt]
    rw [he] at hm
    have hk : lookupKind (orEqual k.name) = some k := by cases k <;> decide +kernel
    rw [Grammar.parse_of_modifier hnl' hm hk]
    cases makeRule P k p <;> simp [Grammar.quantOpt]

theorem no_cr_kindMod (p : List Char) (k : Grammar.Kind) : (p ++ kindMod k).getLast? ≠ some '\r' := by
  have : p ++ kindMod k = (p ++ [' ', '('] ++ k.name) ++ [')'] := by simp [kindMod]
  rw [this, List.getLast?_append]
  simp

theorem no_cr_of_printable {m : Mode} {isOther : Char → Bool} (hC : m = .unicode → AsciiContract isOther)
    {c : List UInt8} {w : List Char} (hu : hasUnprintable m isOther c = false) (hw : utf8 w = c) :
    '\r' ∉ w := by
  intro hm
  cases m with
  | ascii =>
    have h13 : (13 : UInt8) ∈ c := by
      rw [← hw]
      exact mem_utf8 hm 13 (by decide)
    simp only [hasUnprintable, hasUnprintableAscii, List.any_eq_false] at hu
    have := hu 13 h13
    simp [printableByte] at this
  | unicode =>
    have hd : utf8Decode c = some w := by rw [← hw]; exact utf8Decode_utf8 w
    simp only [hasUnprintable, hasUnprintableUnicode, hd, List.any_eq_false] at hu
    have h1 := hu '\r' hm
    have h2 := (hC rfl '\r' (by decide)).mpr (Or.inl (by decide))
    rw [h2] at h1
    exact absurd rfl h1

theorem plain_ok {P : Params} (hP : StdParams P) {l c : List UInt8} {e : List Char}
    (hu : utf8 e = c) (hlf : NoLF c) (hl : l = c ++ [10])
    (hlooks : looksLikeModifierOrExitCode e = false) (hlead : commandLead e = none)
    (hcr : '\r' ∉ e) : LineOK P l e := by
  have hnl := not_mem_nl_of_utf8 hu hlf
  simp only [looksLikeModifierOrExitCode, Bool.or_eq_false_iff] at hlooks
  refine ⟨hnl, hlead, hlooks.1, fun h => hcr (List.mem_of_getLast? h), ?_⟩
  have hno := Grammar.not_modifier_of_not_endsLike (W := P.isWhite) (fun c h => by rwa [hP.white] at h) hlooks.2
  refine ⟨_, Grammar.parse_of_no_modifier hnl hno, rfl, rfl, Or.inl rfl, ?_⟩
  show equalMatches e l = true
  rw [equal_iff' e l (by rw [hu]; exact hlf.getLast), hu, hl]

theorem equal_ok {P : Params} (hP : StdParams P) {l c : List UInt8} {e : List Char}
    (hu : utf8 e = c) (hlf : NoLF c) (hl : l = c ++ [10])
    (hlead : commandLead (e ++ equalMod) = none) : LineOK P l (e ++ equalMod) := by
  have hnl := not_mem_nl_of_utf8 hu hlf
  rw [equalMod_eq] at hlead ⊢
  obtain ⟨h1, h2, h3⟩ := kindMod_line hP e .equal hnl
  refine ⟨h1, hlead, h2, no_cr_kindMod e .equal, _, h3, rfl, rfl, Or.inl rfl, ?_⟩
  show equalMatches e l = true
  rw [equal_iff' e l (by rw [hu]; exact hlf.getLast), hu, hl]

theorem noEol_ok {P : Params} (hP : StdParams P) {l c : List UInt8} {e : List Char}
    (hu : utf8 e = c) (hlf : NoLF c) (hl : l = c)
    (hlead : commandLead (e ++ noEolMod) = none) : LineOK P l (e ++ noEolMod) := by
  have hnl := not_mem_nl_of_utf8 hu hlf
  rw [noEolMod_eq] at hlead ⊢
  obtain ⟨h1, h2, h3⟩ := kindMod_line hP e .noEol hnl
  refine ⟨h1, hlead, h2, no_cr_kindMod e .noEol, _, h3, rfl, rfl, Or.inr (Or.inl rfl), ?_⟩
  show noEolMatches e l = true
  rw [noeol_iff, hu, hl]

theorem escaped_core {P : Params} (hP : StdParams P) {l c : List UInt8} {w : List Char}
    (htok : Tok w c) (hne : endsWithNoEol w = false) (hnl : '\n' ∉ w) (hc : trimNewlines l = c)
    (hlead : commandLead (w ++ escapedMod) = none) : LineOK P l (w ++ escapedMod) := by
  rw [escapedMod_eq] at hlead ⊢
  obtain ⟨h1, h2, h3⟩ := kindMod_line hP w .escaped hnl
  have hmk : makeRule P .escaped w = some c := by
    show P.make .escaped (Grammar.stripNoEol w) = some c
    rw [stripNoEol_of_not hne, hP.escaped]
    exact htok.decode_eq
  rw [hmk] at h3
  refine ⟨h1, hlead, h2, no_cr_kindMod w .escaped, _, h3, rfl, rfl, Or.inr (Or.inr rfl), ?_⟩
  show escapedMatches c l = true
  simp [escapedMatches, hc]

theorem commandLead_two (a b : Char) (x y : List Char) :
    commandLead (a :: b :: x) = commandLead (a :: b :: y) := by
  by_cases hb : b = ' '
  · subst hb; simp [commandLead]
  · have : ∀ z, commandLead (a :: b :: z) = none := by
      intro z
      unfold commandLead
      split
      · rename_i c r heq
        have := (List.cons.inj (List.cons.inj heq).2).1
        exact absurd this hb
      · rfl
    rw [this x, this y]

theorem commandLead_x20 (body r : List Char) (h : commandLead (body ++ noEolMod ++ r) = none) :
    commandLead (body ++ x20NoEol ++ r) = none := by
  match body with
  | [] => exact commandLead_backslash _
  | [a] =>
    cases hc : commandLead ([a] ++ x20NoEol ++ r) with
    | none => rfl
    | some ch =>
      obtain ⟨_, r', hr'⟩ := commandLead_some hc
      simp [x20NoEol] at hr'
  | a :: b :: rest =>
    simp only [List.cons_append] at h ⊢
    rw [commandLead_two a b _ (rest ++ noEolMod ++ r)]
    exact h

theorem escaped_final {P : Params} (hP : StdParams P) {l c : List UInt8} {w : List Char}
    (hrep : Rep w c) (hc : trimNewlines l = c) (hlead : commandLead (w ++ escapedMod) = none) :
    LineOK P l (guardNoEol (w ++ escapedMod)) := by
  rcases suffix_cases w with hno | ⟨body, rfl⟩
  · rw [guardNoEol_marker_of_not hno]
    exact escaped_core hP hrep.tok hno hrep.no_nl hc hlead
  · rw [guardNoEol_marker]
    have htok : Tok (body ++ x20NoEol) c := by
      have := Rep.replace_space (body := body) (s0 := ['(', 'n', 'o', '-', 'e', 'o', 'l', ')']) (bs := c)
        (by simpa [noEolMod] using hrep)
      simpa [x20NoEol] using this
    have hnl : '\n' ∉ body ++ x20NoEol := by
      have h0 := hrep.no_nl
      intro h
      rcases List.mem_append.mp h with h | h
      · exact h0 (List.mem_append_left _ h)
      · revert h; decide
    exact escaped_core hP htok (endsWithNoEol_x20 body) hnl hc (commandLead_x20 body escapedMod hlead)

theorem hexEscapePiece {ch : Char} (h : ch = '$' ∨ ch = '>') :
    PieceOK (hexEscape ch) (String.utf8EncodeChar ch) := by
  rcases h with rfl | rfl
  · have e1 : hexEscape '$' = ['\\', 'x', '2', '4'] := by decide +kernel
    have e2 : String.utf8EncodeChar '$' = [36] := by decide +kernel
    rw [e1, e2]
    refine ⟨?_, by simp, by decide, by decide, ?_⟩
    · have := Tok.hex (h1 := '2') (h2 := '4') (a := 2) (b := 4) (by decide) (by decide)
      simpa using this
    · intro c r he hc
      exact absurd ((List.cons.inj he).1).symm hc
  · have e1 : hexEscape '>' = ['\\', 'x', '3', 'e'] := by decide +kernel
    have e2 : String.utf8EncodeChar '>' = [62] := by decide +kernel
    rw [e1, e2]
    refine ⟨?_, by simp, by decide, by decide, ?_⟩
    · have := Tok.hex (h1 := '3') (h2 := 'e') (a := 3) (b := 14) (by decide) (by decide)
      simpa using this
    · intro c r he hc
      exact absurd ((List.cons.inj he).1).symm hc

theorem lead_ne_backslash {ch : Char} (h : ch = '$' ∨ ch = '>') : ch ≠ '\\' := by
  rcases h with rfl | rfl <;> decide

theorem lead_escaped {P : Params} (hP : StdParams P) {l c : List UInt8} {w : List Char} {ch : Char}
    (hrep : Rep w c) (hc : trimNewlines l = c) (hcl : commandLead (w ++ escapedMod) = some ch) :
    LineOK P l (guardNoEol (hexEscape ch ++ (w ++ escapedMod).drop 1)) := by
  obtain ⟨hch, r, hr⟩ := commandLead_some hcl
  cases w with
  | nil =>
    have : ch = ' ' := by
      have := congrArg List.head? hr
      simpa [escapedMod, marker] using this.symm
    subst this
    rcases hch with h | h <;> cases h
  | cons a w1 =>
    have ha : a = ch := by
      have := congrArg List.head? hr
      simpa using this
    subst ha
    obtain ⟨b, bs', hbs, htk, hrep1⟩ := Rep.head hrep (lead_ne_backslash hch)
    have hb : b = String.utf8EncodeChar a := Tok.unique htk (Tok.char (lead_ne_backslash hch))
    have hrep' : Rep (hexEscape a ++ w1) c := by
      rw [hbs, hb]
      exact Rep.append (Rep.single (hexEscapePiece hch)) hrep1
    have heq : hexEscape a ++ ((a :: w1) ++ escapedMod).drop 1 = (hexEscape a ++ w1) ++ escapedMod := by simp
    rw [heq]
    exact escaped_final hP hrep' hc (commandLead_backslash _)

theorem lead_plain {P : Params} (hP : StdParams P) {l c : List UInt8} {w1 : List Char} {ch : Char}
    (hch : ch = '$' ∨ ch = '>') (hu : utf8 (ch :: w1) = c) (hlf : NoLF c) (hc : trimNewlines l = c) :
    LineOK P l (guardNoEol (hexEscape ch ++ Grammar.doubleBackslash w1 ++ escapedMod)) := by
  have hsplit : c = String.utf8EncodeChar ch ++ utf8 w1 := by rw [← hu]; simp [utf8]
  have hlf1 : NoLF (utf8 w1) := by
    intro b hb
    exact hlf b (by rw [hsplit]; exact List.mem_append_right _ hb)
  have hrep' : Rep (hexEscape ch ++ Grammar.doubleBackslash w1) c := by
    rw [hsplit]
    exact Rep.append (Rep.single (hexEscapePiece hch)) (rep_doubleBackslash w1 hlf1)
  exact escaped_final hP hrep' hc (commandLead_backslash _)

theorem escapedExpectation_of (m : Mode) (isOther : Char → Bool) {c : List UInt8} (hlf : NoLF c) :
    escapedExpectation m isOther c =
      if (written m isOther c).1 = .equal then (written m isOther c).2
      else guardTailingNoEol (written m isOther c).2 ++ marker := by
  unfold escapedExpectation
  rw [trimNewlines_noLF hlf]
  split <;> rename_i e he <;> simp [he]

theorem line_ok {P : Params} (hP : StdParams P) (m : Mode) (isOther : Char → Bool)
    (hC : m = .unicode → AsciiContract isOther) {l : List UInt8} (hl : Newline.IsLine l) :
    ∃ t, expectationLine m isOther l = some t ∧ LineOK P l t := by
  obtain ⟨hlf, hcase⟩ := isLine_cases hl
  generalize hc : trimNewlines l = c at hlf hcase
  have hee := escapedExpectation_of m isOther hlf
  have hk := written_kind m isOther hC c
  cases hu : hasUnprintable m isOther c with
  | true =>
    rw [hu] at hk
    simp only [if_true] at hk
    have hrep := (written_rep m isOther hC c hlf hk).guard_rep
    rw [hk] at hee
    simp only [reduceCtorEq, if_false] at hee
    generalize guardTailingNoEol (written m isOther c).2 = w at hee hrep
    have hbody : expectationBody m isOther l = w ++ escapedMod := by
      simp only [expectationBody, hc, hu, if_true, hee]; rfl
    cases hcl : commandLead (w ++ escapedMod) with
    | none =>
      refine ⟨guardNoEol (w ++ escapedMod), ?_, escaped_final hP hrep hc hcl⟩
      simp [expectationLine, escapeLead, hbody, hcl]
    | some ch =>
      refine ⟨_, ?_, lead_escaped hP hrep hc hcl⟩
      simp [expectationLine, escapeLead, hbody, hcl, hc, hu]
  | false =>
    rw [hu] at hk
    simp only [Bool.false_eq_true, if_false] at hk
    rw [hk] at hee
    simp only [if_true] at hee
    have hu8 : utf8 (written m isOther c).2 = c := by
      rcases written_cases m isOther hC c hlf with ⟨_, h⟩ | ⟨h, _⟩
      · exact h
      · rw [hk] at h; cases h
    generalize (written m isOther c).2 = w at hee hu8
    have he0 : escapedExpectation m isOther c = w := hee
    have hdec : utf8Decode c = some w := by rw [← hu8]; exact utf8Decode_utf8 w
    -- the body is the text followed by one of three suffixes
    have hbody : ∃ sfx, expectationBody m isOther l = w ++ sfx ∧
        ((sfx = noEolMod ∧ l = c) ∨ (sfx = equalMod ∧ l = c ++ [10]) ∨
         (sfx = [] ∧ l = c ++ [10] ∧ looksLikeModifierOrExitCode w = false)) := by
      rcases hcase with ⟨hlf1, hl1⟩ | ⟨hlf0, hl0⟩
      · rcases Bool.eq_false_or_eq_true (looksLikeModifierOrExitCode w) with hlk | hlk
        · exact ⟨equalMod, by simp [expectationBody, hc, hu, he0, hlf1, hlk], Or.inr (Or.inl ⟨rfl, hl1⟩)⟩
        · exact ⟨[], by simp [expectationBody, hc, hu, he0, hlf1, hlk], Or.inr (Or.inr ⟨rfl, hl1, hlk⟩)⟩
      · exact ⟨noEolMod, by simp [expectationBody, hc, hu, he0, hlf0], Or.inl ⟨rfl, hl0⟩⟩
    obtain ⟨sfx, hb, hsfx⟩ := hbody
    cases hcl : commandLead (w ++ sfx) with
    | none =>
      have hline : escapeLead m isOther l = some (w ++ sfx) := by
        simp [escapeLead, hb, hcl]
      rcases hsfx with ⟨rfl, hl0⟩ | ⟨rfl, hl1⟩ | ⟨rfl, hl1, hlk⟩
      · refine ⟨w ++ noEolMod, ?_, noEol_ok hP hu8 hlf hl0 hcl⟩
        simp [expectationLine, hline, guardNoEol_of_not (not_isSuffixOf_append (m := noEolMod) (by decide) (by decide) w)]
      · refine ⟨w ++ equalMod, ?_, equal_ok hP hu8 hlf hl1 hcl⟩
        simp [expectationLine, hline, guardNoEol_of_not (not_isSuffixOf_append (m := equalMod) (by decide) (by decide) w)]
      · have hns : (noEolMod ++ escapedMod).isSuffixOf w = false := by
          cases hs : (noEolMod ++ escapedMod).isSuffixOf w with
          | false => rfl
          | true =>
            have := endsLike_of_suffix hs
            simp [looksLikeModifierOrExitCode, this] at hlk
        rw [List.append_nil] at hcl hline
        refine ⟨w, ?_, plain_ok hP hu8 hlf hl1 hlk hcl (no_cr_of_printable hC hu hu8)⟩
        simp [expectationLine, hline, guardNoEol_of_not hns]
    | some ch =>
      obtain ⟨hch, r, hr⟩ := commandLead_some hcl
      cases w with
      | nil =>
        -- none of the three suffixes starts like a command
        rcases hsfx with ⟨rfl, _⟩ | ⟨rfl, _⟩ | ⟨rfl, _⟩ <;> cases hcl
      | cons a w1 =>
        have ha : a = ch := by
          have := congrArg List.head? hr
          simpa using this
        subst ha
        have hcl' : commandLead (a :: (w1 ++ sfx)) = some a := by simpa using hcl
        refine ⟨_, ?_, lead_plain (w1 := w1) hP hch hu8 hlf hc⟩
        simp [expectationLine, escapeLead, hb, hcl', hc, hu, hdec]

end Scrut.GenLemmas
