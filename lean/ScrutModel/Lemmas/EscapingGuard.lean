import ScrutModel.Lemmas.EscapingLossless
/-!
# C11: `guard_tailing_no_eol` keeps the escaped text readable

The escaped text scrut writes is `guardTailingNoEol e` for the rendering `e`. It never ends in
` (no-eol)` (so `EscapedRule::make` strips nothing), and it is still a token sequence for the
bytes of the line: the rendering is a sequence of pieces in which a blank is its own piece, and
the guard replaces that piece by `\x20`.
-/
namespace Scrut.EscLemmas
open Scrut.Utf8 Scrut.Esc Scrut.EscF Scrut.Rules

theorem endsWithNoEol_eq (e : List Char) : endsWithNoEol e = noEolLit.isSuffixOf e := rfl

theorem endsWithNoEol_x20Lit (body : List Char) : endsWithNoEol (body ++ x20NoEolLit) = false := by
  -- read from the end, the two literals differ at the ninth character: `0` against the blank
  simp [endsWithNoEol, List.isSuffixOf, Rules.noEolSuffix, x20NoEolLit, List.isPrefixOf]

theorem guard_cases (e : List Char) :
    (endsWithNoEol e = false ∧ guardTailingNoEol e = e) ∨
    (∃ body, e = body ++ ' ' :: ['(', 'n', 'o', '-', 'e', 'o', 'l', ')'] ∧
      guardTailingNoEol e = body ++ '\\' :: 'x' :: '2' :: '0' :: ['(', 'n', 'o', '-', 'e', 'o', 'l', ')']) := by
  cases h : noEolLit.isSuffixOf e with
  | false => exact Or.inl ⟨(endsWithNoEol_eq e).trans h, by simp [guardTailingNoEol, h]⟩
  | true =>
    right
    obtain ⟨body, hb⟩ := List.isSuffixOf_iff_suffix.mp h
    refine ⟨body, hb.symm, ?_⟩
    have ht : e.take (e.length - noEolLit.length) = body := by
      rw [← hb]
      apply List.take_left'
      simp
    simp only [guardTailingNoEol, h, if_true, ht]
    rfl

/-- **the guarded text never ends in ` (no-eol)`**: `EscapedRule::make` has nothing to strip -/
theorem endsWithNoEol_guard (e : List Char) : endsWithNoEol (guardTailingNoEol e) = false := by
  rcases guard_cases e with ⟨h1, h2⟩ | ⟨body, _, h2⟩
  · rw [h2]; exact h1
  · rw [h2]; exact endsWithNoEol_x20Lit body

theorem Rep.guard_rep {e : List Char} {bs : List UInt8} (h : Rep e bs) : Rep (guardTailingNoEol e) bs := by
  rcases guard_cases e with ⟨_, h2⟩ | ⟨body, h1, h2⟩
  · rw [h2]; exact h
  · rw [h2]
    rw [h1] at h
    exact h.replace_space_rep

theorem Rep.guard {e : List Char} {bs : List UInt8} (h : Rep e bs) : Tok (guardTailingNoEol e) bs :=
  h.guard_rep.tok

theorem written_eq (m : Mode) (isOther : Char → Bool) (t : List UInt8) :
    written m isOther t = ((written m isOther t).1, (written m isOther t).2) := rfl

theorem writtenText_equal {m : Mode} {isOther : Char → Bool} {t : List UInt8}
    (h : (written m isOther t).1 = .equal) : writtenText m isOther t = (written m isOther t).2 := by
  unfold writtenText; rw [written_eq, h]

theorem writtenText_escaped {m : Mode} {isOther : Char → Bool} {t : List UInt8}
    (h : (written m isOther t).1 = .escaped) :
    writtenText m isOther t = guardTailingNoEol (written m isOther t).2 := by
  unfold writtenText; rw [written_eq, h]

end Scrut.EscLemmas
