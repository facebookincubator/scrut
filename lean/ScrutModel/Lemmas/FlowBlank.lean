import ScrutModel.Model.ConfigRender
/-!
# `parseFlow` does not see blanks directly behind the opening brace

`update` writes the inline configuration of a block without its leading white space
(`config_text.trim_start()`).  Where that white space is YAML blanks (spaces, tabs) the flow parser
reads the same mapping, with the same result (value, error, panic or "outside the modelled subset").  The
fuel of `parseMapV` (one unit per entry) does not matter once it exceeds the length of the text.  Both rest
on one fact about every scanner of the flow subset: what it leaves unread is a suffix of what it was given.
-/
namespace Scrut.Yaml

theorem skipWs_suffix (cs : List Char) : skipWs cs <:+ cs := by
  fun_induction skipWs cs
  · exact List.suffix_refl _
  · exact List.IsSuffix.trans ‹_› (List.suffix_cons _ _)
  · exact List.suffix_refl _

theorem skipWs_idem (cs : List Char) : skipWs (skipWs cs) = skipWs cs := by
  fun_induction skipWs cs <;> simp_all [skipWs]

theorem skipWs_append_of_nonblank (d : Char) (hd : isBlank d = false) (rest t : List Char) :
    skipWs (t ++ d :: rest) = skipWs t ++ d :: rest := by
  fun_induction skipWs t <;> simp_all [skipWs]

theorem skipWs_head_nonblank (t : List Char) (d : Char) (r : List Char) (h : skipWs t = d :: r) :
    isBlank d = false := by
  fun_induction skipWs t <;> simp_all

/- Every branch of the two scanners returns what is left of its input or goes on with the tail. -/
theorem plainGo_suffix (cs acc a r : List Char) (h : plainGo cs acc = some (a, r)) : r <:+ cs := by
  fun_induction plainGo cs acc <;> simp_all [List.suffix_cons_iff]

theorem scanQuoted_suffix (cs acc s r : List Char) (h : scanQuoted cs acc = some (s, r)) : r <:+ cs := by
  fun_induction scanQuoted cs acc <;> simp_all [List.suffix_cons_iff]

theorem scanScalar_suffix (cs : List Char) (s : Scalar) (r : List Char) (h : scanScalar cs = some (s, r)) :
    r <:+ cs := by
  unfold scanScalar at h
  split at h
  · cases h
  · obtain ⟨⟨t, r'⟩, hq, rfl, rfl⟩ := Option.map_eq_some_iff.mp h
    exact (scanQuoted_suffix _ _ _ _ hq).trans (List.suffix_cons _ _)
  · split at h
    · obtain ⟨⟨t, r'⟩, hq, rfl, rfl⟩ := Option.map_eq_some_iff.mp h
      exact plainGo_suffix _ _ _ _ hq
    · cases h

theorem parseKey_inv (cs : List Char) (k : Scalar) (r : List Char) (h : parseKey cs = some (k, r)) :
    ∃ r1 r', scanScalar cs = some (k, r1) ∧ skipWs r1 = ':' :: r' ∧ r = skipWs r' := by
  unfold parseKey at h
  split at h
  · cases h
  · rename_i k' r1 hs
    split at h
    · rename_i r' heq
      split at h
      · cases h
      · cases h; exact ⟨r1, r', hs, heq, rfl⟩
    · cases h

theorem parseKey_suffix (cs : List Char) (k : Scalar) (r : List Char) (h : parseKey cs = some (k, r)) :
    r <:+ cs := by
  obtain ⟨r1, r', hs, heq, rfl⟩ := parseKey_inv cs k r h
  exact (skipWs_suffix r').trans <| (List.suffix_cons _ _).trans <|
    (heq ▸ skipWs_suffix r1).trans (scanScalar_suffix _ _ _ hs)

theorem scanValS_suffix (cs : List Char) (s : Scalar) (r : List Char) (h : scanValS cs = some (s, r)) :
    r <:+ cs := by
  unfold scanValS at h
  split at h
  · cases h; exact List.suffix_refl _
  · cases h; exact List.suffix_refl _
  · exact scanScalar_suffix cs s r h

theorem parseMapS_suffix : ∀ (f : Nat) (cs : List Char) (l : List (Scalar × Scalar)) (r : List Char),
    parseMapS f cs = some (l, r) → r <:+ cs
  | 0, _, _, _, h => by simp [parseMapS] at h
  | f + 1, cs, l, r, h => by
    unfold parseMapS at h
    have h0 := skipWs_suffix cs
    split at h
    · rename_i r0 heq
      cases h
      exact (List.suffix_cons _ _).trans (heq ▸ h0)
    · split at h
      · cases h
      · rename_i k r1 hk
        have h1 := (parseKey_suffix _ k r1 hk).trans h0
        split at h
        · cases h
        · rename_i v r2 hv
          have h2 := (skipWs_suffix r2).trans <| (scanValS_suffix _ v r2 hv).trans h1
          split at h
          · rename_i r' heq
            split at h
            · cases h
            · rename_i l' r'' hm
              cases h
              exact (parseMapS_suffix f r' l' _ hm).trans <| (List.suffix_cons _ _).trans (heq ▸ h2)
          · rename_i r' heq
            cases h
            exact (List.suffix_cons _ _).trans (heq ▸ h2)
          · cases h

theorem scanVal_suffix (cs : List Char) (v : Val) (r : List Char) (h : scanVal cs = some (v, r)) : r <:+ cs := by
  unfold scanVal at h
  split at h
  · obtain ⟨⟨l, r'⟩, hm, rfl, rfl⟩ := Option.map_eq_some_iff.mp h
    exact (parseMapS_suffix _ _ l _ hm).trans (List.suffix_cons _ _)
  · obtain ⟨⟨s, r'⟩, hs, rfl, rfl⟩ := Option.map_eq_some_iff.mp h
    exact scanValS_suffix cs s _ hs

/-- one round of `parseMapV`, the recursive call abstracted -/
def stepV (rec : List Char → Option (Ast × List Char)) (cs : List Char) : Option (Ast × List Char) :=
  match skipWs cs with
  | '}' :: r => some ([], r)
  | cs' =>
    match parseKey cs' with
    | none => none
    | some (k, r) =>
      match scanVal r with
      | none => none
      | some (v, r) =>
        match skipWs r with
        | ',' :: r' =>
          (match rec r' with
           | none => none
           | some (l, r'') => some ((k, v) :: l, r''))
        | '}' :: r' => some ([(k, v)], r')
        | _ => none

theorem parseMapV_succ (f : Nat) (cs : List Char) : parseMapV (f + 1) cs = stepV (parseMapV f) cs := by
  rw [parseMapV]; rfl

theorem stepV_congr (rec1 rec2 : List Char → Option (Ast × List Char)) (cs : List Char)
    (h : ∀ r, r.length < cs.length → rec1 r = rec2 r) : stepV rec1 cs = stepV rec2 cs := by
  have h0 := (skipWs_suffix cs).length_le
  unfold stepV
  split
  · rfl
  · cases hk : parseKey (skipWs cs) with
    | none => rfl
    | some x =>
      obtain ⟨k, r1⟩ := x
      have h1 := (parseKey_suffix _ k r1 hk).length_le
      dsimp only
      cases hv : scanVal r1 with
      | none => rfl
      | some y =>
        obtain ⟨v, r2⟩ := y
        have h2 := (scanVal_suffix _ v r2 hv).length_le
        have h3 := (skipWs_suffix r2).length_le
        dsimp only
        split
        · rename_i r' heq
          rw [heq] at h3
          simp only [List.length_cons] at h3
          rw [h r' (by omega)]
        · rfl
        · rfl

theorem parseMapV_fuel : ∀ (n m : Nat) (cs : List Char), cs.length < n → cs.length < m →
    parseMapV n cs = parseMapV m cs
  | 0, _, _, h, _ => by omega
  | _ + 1, 0, _, _, h => by omega
  | n + 1, m + 1, cs, hn, hm => by
    rw [parseMapV_succ, parseMapV_succ]
    exact stepV_congr _ _ cs (fun r hr => parseMapV_fuel n m r (by omega) (by omega))

theorem parseMapV_skipWs (n : Nat) (cs : List Char) : parseMapV n (skipWs cs) = parseMapV n cs := by
  cases n with
  | zero => rfl
  | succ f => rw [parseMapV_succ, parseMapV_succ]; unfold stepV; rw [skipWs_idem]

theorem isBlank_ok {c : Char} (h : isBlank c = true) : isBreak c = false ∧ readable c = true := by
  have : c = ' ' ∨ c = '\t' := by simpa [isBlank] using h
  rcases this with rfl | rfl <;> decide +kernel

theorem any_isBreak_skipWs (t : List Char) : (skipWs t).any isBreak = t.any isBreak := by
  fun_induction skipWs t <;> simp_all [isBlank_ok]

theorem all_readable_skipWs (t : List Char) : (skipWs t).all readable = t.all readable := by
  fun_induction skipWs t <;> simp_all [isBlank_ok]

theorem parseFlow_skipWs (t : List Char) :
    parseFlow ('{' :: (skipWs t ++ ['}'])) = parseFlow ('{' :: (t ++ ['}'])) := by
  have hb : ('{' :: (skipWs t ++ ['}'])).any isBreak = ('{' :: (t ++ ['}'])).any isBreak := by
    simp only [List.any_cons, List.any_append, any_isBreak_skipWs]
  have hr : ('{' :: (skipWs t ++ ['}'])).all readable = ('{' :: (t ++ ['}'])).all readable := by
    simp only [List.all_cons, List.all_append, all_readable_skipWs]
  have hbr : isBlank '}' = false := by decide +kernel
  have ha : parseAst ('{' :: (skipWs t ++ ['}'])) = parseAst ('{' :: (t ++ ['}'])) := by
    have hd : ∀ r, dropSpaces ('{' :: r) = '{' :: r := by intro r; simp [dropSpaces]
    unfold parseAst
    rw [hd, hd]
    have e : parseMapV ((skipWs t ++ ['}']).length + 1) (skipWs t ++ ['}'])
        = parseMapV ((t ++ ['}']).length + 1) (t ++ ['}']) := by
      rw [← parseMapV_skipWs _ (t ++ ['}']), skipWs_append_of_nonblank '}' hbr [] t]
      apply parseMapV_fuel
      · omega
      · have := (skipWs_suffix t).length_le
        simp only [List.length_append, List.length_cons, List.length_nil]; omega
    simp only [e]
  unfold parseFlow
  rw [hb, hr, ha]

/-! ## a text without `:` is no mapping (a configuration of Unicode white space only) -/

theorem parseKey_colon (cs : List Char) (k : Scalar) (r : List Char) (h : parseKey cs = some (k, r)) :
    ':' ∈ cs := by
  obtain ⟨r1, r', hs, heq, _⟩ := parseKey_inv cs k r h
  exact (scanScalar_suffix _ _ _ hs).subset ((skipWs_suffix r1).subset (heq ▸ List.mem_cons_self))

theorem parseAst_no_key (d : Char) (rest : List Char) (hb : isBlank d = false) (h1 : d ≠ '}')
    (hc : ':' ∉ d :: rest) : parseAst ('{' :: d :: rest) = none := by
  have hk : parseKey (d :: rest) = none := by
    cases hp : parseKey (d :: rest) with
    | none => rfl
    | some x => exact absurd (parseKey_colon _ x.1 x.2 hp) hc
  have hd : dropSpaces ('{' :: d :: rest) = '{' :: d :: rest := by simp [dropSpaces]
  have hs : skipWs (d :: rest) = d :: rest := by simp [skipWs, hb]
  have hm : parseMapV ((d :: rest).length + 1) (d :: rest) = none := by
    rw [parseMapV_succ]
    unfold stepV
    rw [hs]
    split
    · rename_i heq
      cases heq
      exact absurd rfl h1
    · simp only [hk]
  unfold parseAst
  rw [hd]
  simp only [hm]

end Scrut.Yaml
