import ScrutModel.Lemmas.GenerateCreate
import ScrutModel.Lemmas.GeneratePrintable
import ScrutModel.Lemmas.MarkdownWF
import ScrutModel.Lemmas.UpdateRetok
/-!
# C09, the last hop for Markdown: the document `scrut create` prints is parsed back as one test
with the command, the generated expectation lines and the exit code

`markdownDoc cfg (generateTestcase …)` is `unlines` of: the fence line, `$ c0`, `> m` for the other
command lines, the generated texts, `[code]` if `code ≠ 0`, the fence. `str::lines()` returns these
lines (`splitLines_unlines`), which are the rendering of ONE well-formed block of `C06_wellformed`'s
grammar, so `MarkdownParser::parse` yields exactly that test.
-/
namespace Scrut.GenLemmas
open Scrut.Utf8 Scrut.Esc Scrut.EscLemmas Scrut.Gen Scrut.Markdown Scrut.LineParser
open Scrut.Update (unlines unlines_append backticks Clean clean_of_forall splitLines_unlines)

theorem splitNl_skip (l t : List Char) (hnl : '\n' ∉ l) : ∀ cur, splitNl (l ++ t) cur = splitNl t (cur ++ l) := by
  induction l with
  | nil => intro cur; simp
  | cons c r ih =>
    intro cur
    have hc : c ≠ '\n' := fun h => hnl (by simp [h])
    rw [List.cons_append, splitNl, if_neg hc, ih (fun h => hnl (by simp [h])), List.append_assoc, List.singleton_append]

theorem splitNl_ne_nil : ∀ (cmd cur : List Char), splitNl cmd cur ≠ []
  | [], _ => by simp [splitNl]
  | c :: rest, cur => by
    unfold splitNl
    split
    · simp
    · exact splitNl_ne_nil rest _

theorem splitNl_no_nl : ∀ (cmd cur : List Char), '\n' ∉ cur → ∀ l ∈ splitNl cmd cur, '\n' ∉ l
  | [], cur, h, l, hl => by
    simp only [splitNl, List.mem_singleton] at hl
    subst hl; exact h
  | c :: rest, cur, h, l, hl => by
    unfold splitNl at hl
    split at hl
    · rcases List.mem_cons.mp hl with rfl | hl
      · exact h
      · exact splitNl_no_nl rest [] (by simp) l hl
    · rename_i hc
      refine splitNl_no_nl rest (cur ++ [c]) ?_ l hl
      intro hm
      rcases List.mem_append.mp hm with hm | hm
      · exact h hm
      · have : '\n' = c := by simpa using hm
        exact hc this.symm

theorem mem_joinNl : ∀ (ls : List (List Char)) (l : List Char), l ∈ ls → ∀ c ∈ l, c ∈ Gen.joinNl ls
  | [], _, h, _, _ => by simp at h
  | [a], l, h, c, hc => by
    have : l = a := by simpa using h
    subst this
    simpa [Gen.joinNl] using hc
  | a :: b :: r, l, h, c, hc => by
    simp only [Gen.joinNl, List.mem_append, List.mem_cons]
    rcases List.mem_cons.mp h with rfl | h
    · exact Or.inl hc
    · exact Or.inr (Or.inr (mem_joinNl (b :: r) l h c hc))

theorem joinNl_splitNl : ∀ (cmd cur : List Char), Gen.joinNl (splitNl cmd cur) = cur ++ cmd
  | [], cur => by simp [splitNl, Gen.joinNl]
  | c :: rest, cur => by
    unfold splitNl
    split
    · rename_i hc
      have ih := joinNl_splitNl rest []
      cases hs : splitNl rest [] with
      | nil => exact absurd hs (splitNl_ne_nil rest [])
      | cons a b =>
        rw [hs] at ih
        simp only [Gen.joinNl, ih, hc, List.nil_append]
    · rw [joinNl_splitNl rest (cur ++ [c])]; simp

theorem splitNl_joinNl : ∀ (ls : List (List Char)), ls ≠ [] → (∀ l ∈ ls, '\n' ∉ l) →
    splitNl (Gen.joinNl ls) [] = ls
  | [], h, _ => absurd rfl h
  | [l], _, hnl => by
    have := splitNl_skip l [] (hnl l (by simp)) []
    rwa [List.append_nil] at this
  | l :: l2 :: rest, _, hnl => by
    simp only [Gen.joinNl]
    rw [splitNl_skip l _ (hnl l (by simp)) [], splitNl, if_pos rfl,
      splitNl_joinNl (l2 :: rest) (by simp) (fun x hx => hnl x (by simp [hx]))]
    rfl

theorem splitNl_cases (cmd : List Char) :
    ∃ c0 more, splitNl cmd [] = c0 :: more ∧ Gen.joinNl (c0 :: more) = cmd ∧ ∀ l ∈ c0 :: more, '\n' ∉ l := by
  cases hs : splitNl cmd [] with
  | nil => exact absurd hs (splitNl_ne_nil cmd [])
  | cons c0 more =>
    refine ⟨c0, more, rfl, ?_, ?_⟩
    · rw [← hs, joinNl_splitNl, List.nil_append]
    · rw [← hs]; exact splitNl_no_nl cmd [] (by simp)

theorem assureNewlineC_nl (l : List Char) : assureNewlineC (l ++ ['\n']) = l ++ ['\n'] := by
  simp [assureNewlineC]

theorem assureNewlineC_plain (l : List Char) (h : '\n' ∉ l) : assureNewlineC l = l ++ ['\n'] := by
  rw [Update.assureNewlineC_eq_assureNewline]
  exact Update.assureNewline_of_no_nl h

theorem expression_split (cmd c0 : List Char) (more : List (List Char)) (h : splitNl cmd [] = c0 :: more) :
    expression cmd = some (unlines (('$' :: ' ' :: c0) :: more.map (fun x => '>' :: ' ' :: x))) := by
  unfold expression
  rw [h]
  simp [unlines, List.flatMap_map]

theorem expression_isSome (cmd : List Char) : ∃ ex, expression cmd = some ex := by
  cases h : splitNl cmd [] with
  | nil => exact absurd h (splitNl_ne_nil cmd [])
  | cons c0 more => exact ⟨_, expression_split cmd c0 more h⟩

theorem expression_lines (c0 : List Char) (more : List (List Char)) (h : ∀ l ∈ c0 :: more, '\n' ∉ l) :
    expression (Gen.joinNl (c0 :: more))
      = some (unlines (('$' :: ' ' :: c0) :: more.map (fun x => '>' :: ' ' :: x))) :=
  expression_split _ c0 more (splitNl_joinNl (c0 :: more) (by simp) h)

def exitLines (code : Int) : List Line := if code ≠ 0 then [['['] ++ showInt code ++ [']']] else []

theorem exitCodeOpt_unlines (code : Int) : exitCodeOpt code = unlines (exitLines code) := by
  unfold exitCodeOpt exitLines
  split <;> simp [unlines, exitCodeLine]

/-- the text between the braces of `Gen.configText` (the two are tied by `configText_eq`) -/
def cfgInner : ConfigDiff → Option Line
  | .empty => none
  | .stderr => some ['o', 'u', 't', 'p', 'u', 't', '_', 's', 't', 'r', 'e', 'a', 'm', ':', ' ', 's', 't', 'd', 'e', 'r', 'r']
  | .cramDefaults => some ['o', 'u', 't', 'p', 'u', 't', '_', 's', 't', 'r', 'e', 'a', 'm', ':', ' ', 'c', 'o', 'm', 'b', 'i', 'n', 'e', 'd', ',', ' ', 'k', 'e', 'e', 'p', '_', 'c', 'r', 'l', 'f', ':', ' ', 't', 'r', 'u', 'e']

def cfgBraces (cfg : ConfigDiff) : Line :=
  match cfgInner cfg with
  | none => []
  | some c => '{' :: (c ++ ['}'])

theorem configText_eq (cfg : ConfigDiff) :
    configText cfg = match cfgInner cfg with
      | none => []
      | some c => ' ' :: '{' :: (c ++ ['}']) := by
  cases cfg <;> rfl

/-- the block that `create` writes: `n` backticks, the command lines, the generated texts `ts`, the exit code -/
def createBlock (n : Nat) (cfg : ConfigDiff) (c0 : Line) (more ts : List Line) (code : Int) : Block :=
  { opener := backticks n ++ language ++ configText cfg, bt := backticks n, language := language,
    config := cfgBraces cfg, comments := [], cmd := c0, more := more, after := ts ++ exitLines code,
    closer := backticks n }

theorem generated_lines (c0 : Line) (more ts : List Line) (code : Int) (n : Nat) (cfg : ConfigDiff) :
    unlines (('$' :: ' ' :: c0) :: more.map (fun x => '>' :: ' ' :: x)) ++ unlines ts ++ exitCodeOpt code
      = unlines (createBlock n cfg c0 more ts code).body := by
  rw [exitCodeOpt_unlines, ← unlines_append, ← unlines_append]
  have : (fun x : Line => '>' :: ' ' :: x) = contLine := rfl
  simp [Block.body, Block.code, Block.cmdLine, createBlock, this]

theorem markdownDoc_unlines (cfg : ConfigDiff) (g : List Char) (body : List Line) (hg : g = unlines body) :
    markdownDoc cfg g
      = unlines ((backticks (Gen.maxBacktickSize g + 1) ++ language ++ configText cfg) ::
          (body ++ [backticks (Gen.maxBacktickSize g + 1)])) := by
  subst hg
  simp [markdownDoc, unlines, backticks]

theorem linesAux_line (l t : List Char) (hnl : '\n' ∉ l) :
    ∀ cur, linesAux (l ++ '\n' :: t) cur = (cur ++ l) :: linesAux t [] := by
  induction l with
  | nil => intro cur; simp [linesAux]
  | cons c r ih =>
    intro cur
    have hc : c ≠ '\n' := fun h => hnl (by simp [h])
    have hr : '\n' ∉ r := fun h => hnl (by simp [h])
    simp only [List.cons_append, linesAux, hc, if_false]
    rw [ih hr]
    simp

theorem lines_unlines (ls : List Line) (h : ∀ l ∈ ls, '\n' ∉ l) : Gen.lines (unlines ls) = ls := by
  induction ls with
  | nil => rfl
  | cons l r ih =>
    have hr := ih (fun x hx => h x (by simp [hx]))
    unfold Gen.lines at hr ⊢
    rw [Update.unlines_cons, linesAux_line l _ (h l (by simp)) [], hr]
    simp

theorem fence_longer (g : List Char) :
    3 ≤ Gen.maxBacktickSize g + 1 ∧ ∀ l ∈ lines g, Gen.leadingBackticks l < Gen.maxBacktickSize g + 1 := by
  obtain ⟨h1, h2⟩ := Update.foldl_max_ge Gen.leadingBackticks (lines g) 2
  exact ⟨Nat.succ_le_succ h1, fun l hl => Nat.lt_succ_of_le (h2 l hl)⟩

theorem fence_safe (body : List Line) (h : ∀ l ∈ body, '\n' ∉ l) :
    ∀ x ∈ body, startsWith x (backticks (Gen.maxBacktickSize (unlines body) + 1)) = false := by
  intro x hx
  cases hs : startsWith x (backticks (Gen.maxBacktickSize (unlines body) + 1)) with
  | false => rfl
  | true =>
    have h1 := Update.startsWith_backticks_le _ x hs
    have h2 := (fence_longer (unlines body)).2 x (by rw [lines_unlines body h]; exact hx)
    rw [Update.leadingBackticks_eq] at h2
    omega

/-- what the document parsers need of a generated text: no line end in it, below a command it is read as an
expectation (neither `$ `/`> ` nor an exit code), and the expectation check accepts it -/
structure TextOK (expOk : Line → Bool) (t : Line) : Prop where
  no_ctl : ∀ c ∈ t, c ≠ '\n' ∧ c ≠ '\r'
  no_lead : commandLead t = none
  no_exit : isExitCodeForm t = false
  exp_ok : expOk t = true

theorem generated_texts {P : Grammar.Params} (hP : StdParams P) (m : Esc.Mode) (isOther : Char → Bool)
    (hC : m = .unicode → AsciiContract isOther) {expOk : Line → Bool}
    (hexp : ∀ t e, Grammar.parse P t = .ok e → expOk t = true)
    (ls : List (List UInt8)) (hls : ∀ l ∈ ls, Newline.IsLine l) :
    ∃ ts : List Line, ts.length = ls.length ∧
      (∀ i (h : i < ls.length), expectationLine m isOther ls[i] = ts[i]?) ∧
      expectationLines m isOther ls = some (unlines ts) ∧ ∀ t ∈ ts, TextOK expOk t := by
  obtain ⟨ts, hlen, hget, hts⟩ := expectationLines_some m isOther hC ls hls
  refine ⟨ts, hlen, hget, hts, ?_⟩
  intro t ht
  obtain ⟨i, hi, rfl⟩ := List.getElem_of_mem ht
  have hi' : i < ls.length := by omega
  have hw : expectationLine m isOther ls[i] = some ts[i] := by
    rw [hget i hi', List.getElem?_eq_getElem hi]
  obtain ⟨t', ht', hok⟩ := line_ok hP m isOther hC (hls _ (List.getElem_mem hi'))
  obtain rfl : t' = ts[i] := Option.some.inj (ht'.symm.trans hw)
  obtain ⟨e, he, _⟩ := hok.parses
  refine ⟨fun c hc => ?_, hok.no_lead, hok.no_exit, hexp _ e he⟩
  have := charOK_not_ctl hC (expectationLine_printable m isOther hC _ _ hw c hc)
  exact ⟨this.2, this.1⟩

theorem langOK_scrut : Update.LangOK language := by unfold Update.LangOK language; decide

theorem opener_read (n : Nat) (hn : 3 ≤ n) (cfg : ConfigDiff) :
    extractCodeBlockStart (backticks n ++ language ++ configText cfg)
      = .ok (some (backticks n, language, cfgBraces cfg)) := by
  rw [extractCodeBlockStart_eq, configText_eq, cfgBraces]
  cases cfgInner cfg with
  | none => rw [List.append_nil, Update.fence_reread n hn language langOK_scrut]
  | some c => rw [Update.fence_reread_config n hn language langOK_scrut c]

theorem stripBraces_cfg (cfg : ConfigDiff) : stripBraces (cfgBraces cfg) = cfgInner cfg := by
  cases cfg with
  | empty => rfl
  | stderr => exact Update.stripBraces_braces _ (by decide)
  | cramDefaults => exact Update.stripBraces_braces _ (by decide)

theorem exitLine_exit_i32 (code : Int) (h0 : 0 ≤ code) (h1 : code ≤ i32Max) :
    extractExitCode ('[' :: (showInt code ++ [']'])) = some code.toNat := by
  simpa using exitCode_roundtrip_i32 code h0 h1

theorem digits_ctl (n : Nat) : ∀ c ∈ Nat.toDigits 10 n, c ≠ '\n' ∧ c ≠ '\r' := by
  intro c hc
  have := Nat.isDigit_of_mem_toDigits (by decide) (by decide) hc
  constructor <;> (rintro rfl; revert this; decide)

theorem exitLine_ctl (code : Int) : ∀ c ∈ '[' :: (showInt code ++ [']']), c ≠ '\n' ∧ c ≠ '\r' := by
  intro c hc
  simp only [List.mem_cons, List.mem_append, List.not_mem_nil, or_false] at hc
  rcases hc with rfl | hc | rfl
  · decide
  · unfold showInt at hc
    split at hc
    · rcases List.mem_cons.mp hc with rfl | hc
      · decide
      · exact digits_ctl _ c hc
    · exact digits_ctl _ c hc
  · decide

theorem exitLines_ctl (code : Int) : ∀ l ∈ exitLines code, ∀ c ∈ l, c ≠ '\n' ∧ c ≠ '\r' := by
  intro l hl
  unfold exitLines at hl
  split at hl
  · rw [List.mem_singleton.mp hl]
    exact exitLine_ctl code
  · cases hl

theorem exitCodes_after (ts : List Line) (hts : ∀ t ∈ ts, extractExitCode t = none) (code : Int)
    (h0 : 0 ≤ code) (h1 : code ≤ i32Max) :
    exitCodes (ts ++ exitLines code) = if code ≠ 0 then [code.toNat] else [] := by
  have h : ts.filterMap extractExitCode = [] := List.filterMap_eq_nil_iff.mpr hts
  unfold exitCodes exitLines
  rw [List.filterMap_append, h]
  split
  · simp [exitLine_exit_i32 code h0 h1]
  · simp

theorem expLines_after (ts : List Line) (hts : ∀ t ∈ ts, extractExitCode t = none) (code : Int)
    (h0 : 0 ≤ code) (h1 : code ≤ i32Max) : expLines (ts ++ exitLines code) = ts := by
  have h : ts.filter (fun a => (extractExitCode a).isNone) = ts := by
    rw [List.filter_eq_self]
    intro t ht
    simp [hts t ht]
  unfold expLines exitLines
  rw [List.filter_append, h]
  split
  · simp [exitLine_exit_i32 code h0 h1]
  · simp

theorem clean_of_no (l : Line) (h1 : '\n' ∉ l) (h2 : l.getLast? ≠ some '\r') : Clean l := ⟨h1, h2⟩

theorem createBlock_wf (env : Env) (hlang : env.languages.contains language = true) (cfg : ConfigDiff)
    (hcfg : ∀ c, cfgInner cfg = some c → env.testCfgOk c = true)
    (c0 : Line) (more ts : List Line) (hcmd : ∀ l ∈ c0 :: more, '\n' ∉ l)
    (hts : ∀ t ∈ ts, TextOK env.expOk t) (code : Int) (h0 : 0 ≤ code) (h1 : code ≤ i32Max) (n : Nat)
    (hn : n = Gen.maxBacktickSize (unlines (createBlock n cfg c0 more ts code).body) + 1) :
    (createBlock n cfg c0 more ts code).WF env := by
  have hn3 : 3 ≤ n := by rw [hn]; exact (fence_longer _).1
  have hnoexit : ∀ t ∈ ts, extractExitCode t = none := fun t ht => extractExitCode_of_not_form (hts t ht).no_exit
  have hbody_nl : ∀ l ∈ (createBlock n cfg c0 more ts code).body, '\n' ∉ l := by
    intro l hl
    simp only [Block.body, Block.code, Block.cmdLine, createBlock, List.nil_append, List.mem_cons,
      List.mem_append, List.mem_map] at hl
    rcases hl with rfl | ⟨x, hx, rfl⟩ | hl | hl
    · simp [hcmd c0 (by simp)]
    · simp [contLine, hcmd x (by simp [hx])]
    · exact fun hm => ((hts l hl).no_ctl _ hm).1 rfl
    · exact fun hm => (exitLines_ctl code l hl _ hm).1 rfl
  refine ⟨opener_read n hn3 cfg, ?_, ?_, ?_, ?_, ?_, ?_, ?_, ?_⟩
  · exact hlang
  · unfold cfgAccepted
    show match stripBraces (cfgBraces cfg) with | some c => env.testCfgOk c = true | none => True
    rw [stripBraces_cfg]
    cases h : cfgInner cfg with
    | none => trivial
    | some c => exact hcfg c h
  · have := fence_safe _ hbody_nl
    rw [← hn] at this
    exact this
  · show startsWith (backticks n) (backticks n) = true
    simp [startsWith]
  · intro c hc; cases hc
  · show (exitCodes (ts ++ exitLines code)).length ≤ 1
    rw [exitCodes_after ts hnoexit code h0 h1]
    split <;> simp
  · show ∀ e ∈ expLines (ts ++ exitLines code), env.expOk e = true ∧ isExitCodeForm e = false
    rw [expLines_after ts hnoexit code h0 h1]
    exact fun e he => ⟨(hts e he).exp_ok, (hts e he).no_exit⟩
  · show match ts ++ exitLines code with | a :: _ => stripPrefix ['>', ' '] a = none | [] => True
    cases ts with
    | nil =>
      by_cases hc : code = 0
      · simp [exitLines, hc]
      · simp [exitLines, hc, stripPrefix]
    | cons t r =>
      exact (commandLead_none_strip (hts t (by simp)).no_lead).2

theorem clean_opener (n : Nat) (cfg : ConfigDiff) : Clean (backticks n ++ language ++ configText cfg) := by
  have h1 : ∀ c ∈ language, c ≠ '\n' ∧ c ≠ '\r' := by decide +kernel
  have h2 : ∀ c ∈ configText cfg, c ≠ '\n' ∧ c ≠ '\r' := by cases cfg <;> decide +kernel
  refine clean_of_forall fun c hc => ?_
  rcases List.mem_append.mp hc with hc | hc
  · rcases List.mem_append.mp hc with hc | hc
    · rw [List.eq_of_mem_replicate hc]; decide
    · exact h1 c hc
  · exact h2 c hc

theorem create_markdown_parses (env : Env) (hlang : env.languages.contains language = true) (cfg : ConfigDiff)
    (hcfg : ∀ c, cfgInner cfg = some c → env.testCfgOk c = true)
    (c0 : Line) (more ts : List Line) (hcmd : ∀ l ∈ c0 :: more, Clean l)
    (hts : ∀ t ∈ ts, TextOK env.expOk t) (code : Int) (h0 : 0 ≤ code) (h1 : code ≤ i32Max) :
    parseMarkdown env (markdownDoc cfg
        (unlines (('$' :: ' ' :: c0) :: more.map (fun x => '>' :: ' ' :: x)) ++ unlines ts ++ exitCodeOpt code))
      = .ok { docConfigs := []
              tests := [{ title := []
                          command := c0 :: more
                          exitCode := if code ≠ 0 then some code.toNat else none
                          expectations := ts
                          lineNumber := 2
                          config := some (cfgInner cfg) }] } := by
  generalize hg0 : unlines (('$' :: ' ' :: c0) :: more.map (fun x => '>' :: ' ' :: x)) ++ unlines ts
    ++ exitCodeOpt code = g
  generalize hn : Gen.maxBacktickSize g + 1 = n
  have hg : g = unlines (createBlock n cfg c0 more ts code).body := by
    rw [← hg0]; exact generated_lines c0 more ts code n cfg
  have hdoc : markdownDoc cfg g = unlines (createBlock n cfg c0 more ts code).lines := by
    rw [markdownDoc_unlines cfg g _ hg, hn]; rfl
  have hwf : (createBlock n cfg c0 more ts code).WF env :=
    createBlock_wf env hlang cfg hcfg c0 more ts (fun l hl => (hcmd l hl).1) hts code h0 h1 n
      (by rw [← hg, hn])
  have hnoexit : ∀ t ∈ ts, extractExitCode t = none := fun t ht => extractExitCode_of_not_form (hts t ht).no_exit
  have hclean : ∀ l ∈ (createBlock n cfg c0 more ts code).lines, Clean l := by
    intro l hl
    simp only [Block.lines, Block.body, Block.code, Block.cmdLine, createBlock, List.nil_append,
      List.mem_cons, List.mem_append, List.mem_map] at hl
    rcases hl with rfl | (rfl | ⟨x, hx, rfl⟩ | hl | hl) | (rfl | hl)
    · exact clean_opener n cfg
    · exact Clean.append_left (p := ['$', ' ']) (by decide) (hcmd c0 (by simp))
    · exact Clean.append_left (p := ['>', ' ']) (by decide) (hcmd x (by simp [hx]))
    · exact clean_of_forall (hts l hl).no_ctl
    · exact clean_of_forall (exitLines_ctl code l hl)
    · exact Update.clean_backticks n
    · cases hl
  have hparse := parseLines_render env [.block (createBlock n cfg c0 more ts code)] ⟨hwf, trivial⟩
  have hr : render [.block (createBlock n cfg c0 more ts code)] = (createBlock n cfg c0 more ts code).lines := by
    simp [render, Item.lines]
  unfold parseMarkdown
  rw [hdoc, splitLines_unlines _ hclean, ← hr, hparse]
  have hexit : (createBlock n cfg c0 more ts code).exit = if code ≠ 0 then some code.toNat else none := by
    show (exitCodes (ts ++ exitLines code)).head? = _
    rw [exitCodes_after ts hnoexit code h0 h1]
    split <;> rfl
  have hexps : (createBlock n cfg c0 more ts code).exps = ts := expLines_after ts hnoexit code h0 h1
  have hcfgs : stripBraces (createBlock n cfg c0 more ts code).config = cfgInner cfg := stripBraces_cfg cfg
  simp only [docTexts, expectedTests, hexit, hexps, hcfgs]
  rfl

theorem create_markdown_end_to_end {P : Grammar.Params} (hP : StdParams P) (m : Esc.Mode) (isOther : Char → Bool)
    (hC : m = .unicode → AsciiContract isOther) (env : Env) (hlang : env.languages.contains language = true)
    (cfg : ConfigDiff) (hcfg : ∀ c, cfgInner cfg = some c → env.testCfgOk c = true)
    (hexp : ∀ t e, Grammar.parse P t = .ok e → env.expOk t = true) (c0 : Line) (more : List Line) (hlines : ∀ l ∈ c0 :: more, Clean l)
    (out : List UInt8) (code : Int) (h0 : 0 ≤ code) (h1 : code ≤ i32Max) :
    ∃ doc ts, create .markdown m isOther cfg (Gen.joinNl (c0 :: more)) out code = some doc ∧
      ts.length = (Newline.splitAtNewline out).length ∧
      (∀ i (h : i < (Newline.splitAtNewline out).length),
        expectationLine m isOther (Newline.splitAtNewline out)[i] = ts[i]?) ∧
      parseMarkdown env doc
        = .ok { docConfigs := []
                tests := [{ title := []
                            command := c0 :: more
                            exitCode := if code ≠ 0 then some code.toNat else none
                            expectations := ts
                            lineNumber := 2
                            config := some (cfgInner cfg) }] } := by
  obtain ⟨ts, hlen, hget, hts, htsok⟩ :=
    generated_texts hP m isOther hC hexp _ (Newline.splitAtNewline_isLine out)
  refine ⟨_, ts, ?_, hlen, hget, create_markdown_parses env hlang cfg hcfg c0 more ts hlines htsok code h0 h1⟩
  unfold create
  rw [generateTestcase_create m isOther _ _ out code (expression_lines c0 more (fun l hl => (hlines l hl).1)), hts]
  rfl

end Scrut.GenLemmas
