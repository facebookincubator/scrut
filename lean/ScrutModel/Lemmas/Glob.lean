import ScrutModel.Model.Glob
import ScrutModel.Lemmas.Basic
/-! Specification relations for the two glob kinds and the proofs that the executable matchers
decide exactly these relations. -/
namespace Scrut.Glob

/-- The documented meaning of a glob: `?` is exactly one character, `*` is any run of characters
(also the empty one), every other character stands for itself, and the *whole* text is consumed. -/
inductive GlobRel : List Char → List Char → Prop
  | nil : GlobRel [] []
  | lit {c p s} : c ≠ '*' → c ≠ '?' → GlobRel p s → GlobRel (c :: p) (c :: s)
  | one {c p s} : GlobRel p s → GlobRel ('?' :: p) (c :: s)
  | star {p s t} (r : List Char) : t = r ++ s → GlobRel p s → GlobRel ('*' :: p) t

theorem anySuffix_iff (f : List Char → Bool) (s : List Char) :
    anySuffix f s = true ↔ ∃ t, t <:+ s ∧ f t = true := by
  induction s with
  | nil => simp [anySuffix]
  | cons c s ih =>
    simp only [anySuffix, Bool.or_eq_true, ih, List.suffix_cons_iff]
    constructor
    · rintro (h | ⟨t, ht, hf⟩)
      · exact ⟨_, .inl rfl, h⟩
      · exact ⟨t, .inr ht, hf⟩
    · rintro ⟨t, rfl | ht, hf⟩
      · exact .inl hf
      · exact .inr ⟨t, ht, hf⟩

theorem globRel_star_inv {p s : List Char} (h : GlobRel ('*' :: p) s) :
    ∃ r t, s = r ++ t ∧ GlobRel p t := by
  cases h with
  | lit h1 _ _ => exact absurd rfl h1
  | star r e h => exact ⟨r, _, e, h⟩

theorem globGo_iff (p s : List Char) : globGo p s = true ↔ GlobRel p s := by
  constructor
  · intro h
    induction p generalizing s with
    | nil => cases s with
      | nil => exact .nil
      | cons c s => simp [globGo] at h
    | cons pc p ih =>
      by_cases hstar : pc = '*'
      · subst hstar
        simp only [globGo, if_true, anySuffix_iff] at h
        obtain ⟨t, ⟨r, rfl⟩, ht⟩ := h
        exact .star r rfl (ih t ht)
      · cases s with
        | nil => simp [globGo, hstar] at h
        | cons c s =>
          simp only [globGo, if_neg hstar, Bool.and_eq_true, Bool.or_eq_true, decide_eq_true_eq] at h
          by_cases hq : pc = '?'
          · exact hq ▸ .one (ih s h.2)
          · exact (h.1.resolve_left hq) ▸ .lit hstar hq (ih s h.2)
  · intro h
    induction h with
    | nil => rfl
    | lit h1 _ _ ih => simp [globGo, h1, ih]
    | one _ ih => simp [globGo, ih]
    | star r e _ ih => simp only [globGo, if_true, anySuffix_iff]; exact ⟨_, ⟨r, e.symm⟩, ih⟩

theorem globRel_star_star (p s : List Char) : GlobRel ('*' :: '*' :: p) s ↔ GlobRel ('*' :: p) s := by
  constructor
  · intro h
    obtain ⟨r, t, rfl, ht⟩ := globRel_star_inv h
    obtain ⟨r', t', rfl, ht'⟩ := globRel_star_inv ht
    exact GlobRel.star (r ++ r') (by simp) ht'
  · intro h
    obtain ⟨r, t, rfl, ht⟩ := globRel_star_inv h
    exact GlobRel.star r rfl (GlobRel.star [] rfl ht)

theorem globRel_cons_congr {p q : List Char} (h : ∀ s, GlobRel p s ↔ GlobRel q s) (c : Char) (s : List Char) :
    GlobRel (c :: p) s ↔ GlobRel (c :: q) s := by
  constructor
  · intro hr
    cases hr with
    | lit h1 h2 h' => exact GlobRel.lit h1 h2 ((h _).1 h')
    | one h' => exact GlobRel.one ((h _).1 h')
    | star r e h' => exact GlobRel.star r e ((h _).1 h')
  · intro hr
    cases hr with
    | lit h1 h2 h' => exact GlobRel.lit h1 h2 ((h _).2 h')
    | one h' => exact GlobRel.one ((h _).2 h')
    | star r e h' => exact GlobRel.star r e ((h _).2 h')

theorem simplify_rel (p : List Char) : ∀ s, GlobRel (simplify p) s ↔ GlobRel p s := by
  induction p with
  | nil => intro s; simp [simplify]
  | cons c rest ih =>
    intro s
    by_cases h : c = '*' ∧ rest.head? = some '*'
    · simp only [simplify, if_pos h]
      obtain ⟨hc, hr⟩ := h
      subst hc
      cases rest with
      | nil => simp at hr
      | cons d rest' =>
        simp at hr
        subst hr
        rw [ih s, globRel_star_star]
    · simp only [simplify, if_neg h]
      exact globRel_cons_congr ih c s

theorem globMatch_iff (p s : List Char) : globMatch p s = true ↔ GlobRel p s := by
  unfold globMatch
  rw [globGo_iff, simplify_rel]

/-- a line as `split_at_newline` hands it to a rule: no newline except possibly the last character -/
def IsLine (l : List Char) : Prop := '\n' ∉ dropFinalNewline l

instance (l : List Char) : Decidable (IsLine l) := by unfold IsLine; infer_instance

theorem dropWhile_nl_of_not_mem {l : List Char} (h : '\n' ∉ l) :
    (l.reverse.dropWhile (· == '\n')).reverse = l :=
  reverse_dropWhile_of_getLast '\n' l (fun e => h (List.mem_of_getLast? e))

theorem trimNewlines_of_isLine {l : List Char} (h : IsLine l) : trimNewlines l = dropFinalNewline l := by
  unfold IsLine dropFinalNewline at *
  by_cases hl : l.getLast? = some '\n'
  · obtain ⟨l', rfl⟩ := List.getLast?_eq_some_iff.mp hl
    simp only [hl, if_true, List.dropLast_concat] at h ⊢
    simp only [trimNewlines, List.reverse_append, List.reverse_singleton, List.singleton_append,
      List.dropWhile_cons, beq_self_eq_true, if_true]
    exact dropWhile_nl_of_not_mem h
  · simp only [hl, if_false] at h ⊢
    exact dropWhile_nl_of_not_mem h

/-- Meaning of the token list the Cram glob compiles to (an anchored regex): a literal is
itself, `.` is one character other than newline, `.*` any run of such characters. -/
inductive TokRel : List Tok → List Char → Prop
  | nil : TokRel [] []
  | lit {c p s} : TokRel p s → TokRel (.lit c :: p) (c :: s)
  | one {c p s} : c ≠ '\n' → TokRel p s → TokRel (.one :: p) (c :: s)
  | many {p s t} (r : List Char) : t = r ++ s → '\n' ∉ r → TokRel p s → TokRel (.many :: p) t

theorem anySuffixNoNl_iff (f : List Char → Bool) (s : List Char) :
    anySuffixNoNl f s = true ↔ ∃ r t, s = r ++ t ∧ '\n' ∉ r ∧ f t = true := by
  induction s with
  | nil =>
    simp only [anySuffixNoNl, List.nil_eq_append_iff]
    exact ⟨fun h => ⟨[], [], ⟨rfl, rfl⟩, by simp, h⟩, fun ⟨_, _, ⟨_, e⟩, _, h⟩ => e ▸ h⟩
  | cons c s ih =>
    simp only [anySuffixNoNl, Bool.or_eq_true, Bool.and_eq_true, ih, bne_iff_ne, ne_eq,
      List.cons_eq_append_iff]
    constructor
    · rintro (h | ⟨hc, r, t, rfl, hr, ht⟩)
      · exact ⟨[], _, .inl ⟨rfl, rfl⟩, by simp, h⟩
      · exact ⟨c :: r, t, .inr ⟨r, rfl, rfl⟩, by simp [hr, Ne.symm hc], ht⟩
    · rintro ⟨r, t, ⟨rfl, rfl⟩ | ⟨r', rfl, rfl⟩, hr, ht⟩
      · exact .inl ht
      · simp only [List.mem_cons, not_or] at hr
        exact .inr ⟨Ne.symm hr.1, r', t, rfl, hr.2, ht⟩

theorem tokGo_iff (p : List Tok) (s : List Char) : tokGo p s = true ↔ TokRel p s := by
  constructor
  · intro h
    induction p generalizing s with
    | nil => cases s with
      | nil => exact .nil
      | cons c s => simp [tokGo] at h
    | cons t p ih =>
      cases t with
      | many =>
        simp only [tokGo, anySuffixNoNl_iff] at h
        obtain ⟨r, t, rfl, hr, ht⟩ := h
        exact .many r rfl hr (ih t ht)
      | one => cases s with
        | nil => simp [tokGo] at h
        | cons c s =>
          simp only [tokGo, Bool.and_eq_true, bne_iff_ne, ne_eq] at h
          exact .one h.1 (ih s h.2)
      | lit x => cases s with
        | nil => simp [tokGo] at h
        | cons c s =>
          simp only [tokGo, Bool.and_eq_true, beq_iff_eq] at h
          exact h.1 ▸ .lit (ih s h.2)
  · intro h
    induction h with
    | nil => rfl
    | lit _ ih => simp [tokGo, ih]
    | one hc _ ih => simp [tokGo, hc, ih]
    | many r e hr _ ih => simp only [tokGo, anySuffixNoNl_iff]; exact ⟨r, _, e, hr, ih⟩

theorem cramMatch_iff (p s : List Char) : cramMatch p s = true ↔ TokRel (cramTokens p) s := tokGo_iff _ _

end Scrut.Glob
