import ScrutModel.Model.UpdateRun
import ScrutModel.Lemmas.GenerateUpdate
import ScrutModel.Lemmas.GenerateMarkdown
import ScrutModel.Lemmas.GeneratePrintable
import ScrutModel.Lemmas.TestRunProps
import ScrutModel.Lemmas.MarkdownAlign
/-!
# One test of the integrated model: the text `update` writes for it is the text of a test that passes

`Props/C09.lean` proves `C09_update_unquantified_passes` for an abstract match matrix of the
retained expectations and the parsed rules of the generated ones.  Here both are the rules of
`Model/TestRun.lean` (`compile`, `Rule.matches`), the diff is the one `UpdateRun.judge` computes:
the expectation list written, compiled the way `scrut test` compiles it, accepts the stream the test
was validated against (`written_list_passes`), and the text of every outcome is the command lines,
these expectation lines and the exit code line placed as for a passing test (`outcome_full`).
-/
namespace Scrut.UpdateRun

section
open Scrut Scrut.TestRun Scrut.Markdown Scrut.Update

/-- the text `generate_testcase` returns for a PASSING test: the command, the expectation lines as
written, `[code]` iff the expected exit code is not 0 -- it depends on the document only (the `Ok` branch generates no
line, so `isOther` and the lines are never looked at: any values do, `updateDocument_allPass`) -/
def passText (u : UTest) : Option (List Char) :=
  Gen.generateTestcaseUpd .unicode (fun _ => false) u.cmd u.origs .ok [] (u.test.expected.getD 0)

/-- test `u` passes on the run `r`: the exit code is the expected one and the validated stream is accepted -/
def Passes (u : UTest) (r : Ran) : Prop :=
  ∃ recorded, record u.test.cfg r = some recorded ∧ judge u.test recorded r.code = some .ok

/-- the expectation texts of a test compile to its expectations (true of every test of a document) -/
def UTest.Compiled (u : UTest) : Prop := Pairs (fun o e => compile o = .ok e) u.origs u.test.exps

/-- guard (`C09:update-retained-quantified-expectations`): no expectation of the test carries a quantifier -/
def Unquantified (u : UTest) : Prop := ∀ e ∈ u.test.exps, e.optional = false ∧ e.multiline = false

instance (u : UTest) : Decidable (Unquantified u) := by unfold Unquantified; exact inferInstance

/-- `[code]` read back: `none` for 0 -/
def writtenExpected (code : Int) : Option Int := if code ≠ 0 then some code else none

/-- `u'` is `u` as `update` rewrites it after a run that ended in `code`: same configuration, same
command, new expectation texts (compiled by the same `compile`), the exit code as written -/
structure RewrittenAs (u u' : UTest) (code : Int) : Prop where
  cfg : u'.test.cfg = u.test.cfg
  cmd : u'.cmd = u.cmd
  compiled : u'.Compiled
  expected : u'.test.expected = writtenExpected code

end

open Scrut Scrut.TestRun Scrut.GenLemmas Scrut.Gen Scrut.Diff Scrut.EscLemmas

theorem grammarParams_std : StdParams grammarParams := ⟨fun _ => rfl, fun _ => rfl⟩

/-- "expectation `i` matches line `j`" -/
def cellOf (exps : List CExp) (lines : List Bytes) (i j : Nat) : Bool :=
  match exps[i]?, lines[j]? with
  | some e, some l => (e.rule.matches l).getD false
  | _, _ => false

theorem matrix_pairs {exps : List CExp} {lines : List Bytes} {tbl : List (List Bool)}
    (h : matrix exps lines = some tbl) :
    Pairs (fun e row => Pairs (fun l b => e.rule.matches l = some b) lines row) exps tbl :=
  (mapM_option_pairs _ exps tbl h).mono (fun _ _ row hr => mapM_option_pairs _ lines row hr)

theorem matrix_cell {exps : List CExp} {lines : List Bytes} {tbl : List (List Bool)}
    (h : matrix exps lines = some tbl) : cell tbl = cellOf exps lines := by
  have hp := matrix_pairs h
  funext i j
  unfold cell cellOf
  cases he : exps[i]? with
  | none =>
    have : tbl[i]? = none := by
      rw [List.getElem?_eq_none_iff] at he ⊢
      rw [← hp.length_eq]; exact he
    simp [this]
  | some e =>
    obtain ⟨row, hrow, hr⟩ := hp.get i e he
    simp only [hrow]
    cases hl : lines[j]? with
    | none =>
      have : row[j]? = none := by
        rw [List.getElem?_eq_none_iff] at hl ⊢
        rw [← hr.length_eq]; exact hl
      simp [this]
    | some l =>
      obtain ⟨b, hb, hm⟩ := hr.get j l hl
      simp [hb, hm]

theorem matrix_some (exps : List CExp) (lines : List Bytes) : ∃ tbl, matrix exps lines = some tbl :=
  Scrut.mapM_option_total _ exps (fun e _ => Scrut.mapM_option_total _ lines (fun l _ => matches_some e.rule l))

theorem compile_generated {isOther : Char → Bool} (hC : AsciiContract isOther) {l : Bytes} (hl : Newline.IsLine l) :
    ∃ t ge rule, expectationLine .unicode isOther l = some t ∧
      genExp grammarParams .unicode isOther l = some ge ∧
      compile t = .ok ⟨rule, false, false⟩ ∧
      (∀ l', rule.matches l' = some (strRuleMatches ge.kind ge.expr l')) ∧
      strRuleMatches ge.kind ge.expr l = true := by
  obtain ⟨t, ht, hok⟩ := line_ok grammarParams_std .unicode isOther (fun _ => hC) hl
  obtain ⟨e, he, h1, h2, hk, h4⟩ := hok.parses
  have hge : genExp grammarParams .unicode isOther l = some e := by simp [genExp, ht, he]
  rcases hk with hk | hk | hk
  · refine ⟨t, e, .equal e.expr, ht, hge, ?_, ?_, h4⟩
    · simp [compile, compileWith, he, hk, h1, h2]
    · intro l'; rw [hk]; rfl
  · refine ⟨t, e, .noEol e.expr, ht, hge, ?_, ?_, h4⟩
    · simp [compile, compileWith, he, hk, h1, h2]
    · intro l'; rw [hk]; rfl
  · refine ⟨t, e, .escaped e.expr, ht, hge, ?_, ?_, h4⟩
    · simp [compile, compileWith, he, hk, h1, h2]
    · intro l'; rw [hk]; rfl

/-- the text of one entry of the written list, without its line feed -/
def slotOrig (isOther : Char → Bool) (origs : List (List Char)) (lines : List Bytes) : Slot → Option (List Char)
  | .kept ei => origs[ei]?
  | .gen li => lines[li]?.bind (expectationLine .unicode isOther)

/-- what an entry of the written list compiles to -/
def SlotExp (isOther : Char → Bool) (exps : List CExp) (lines : List Bytes) : Slot → CExp → Prop
  | .kept ei, e => exps[ei]? = some e
  | .gen li, e => ∃ l ge rule, lines[li]? = some l ∧ genExp grammarParams .unicode isOther l = some ge ∧
      e = ⟨rule, false, false⟩ ∧ (∀ l', rule.matches l' = some (strRuleMatches ge.kind ge.expr l')) ∧
      strRuleMatches ge.kind ge.expr l = true

theorem written_list_passes {isOther : Char → Bool} (hC : AsciiContract isOther)
    (origs : List (List Char)) (exps : List CExp) (hcomp : Pairs (fun o e => compile o = .ok e) origs exps)
    (hq : ∀ e ∈ exps, e.optional = false ∧ e.multiline = false)
    (stream : Bytes) (tbl : List (List Bool)) (hm : matrix exps (Newline.splitAtNewline stream) = some tbl)
    (sl : List Slot) (hspec : SlotsSpec (cell tbl) (Newline.splitAtNewline stream).length sl)
    (newOrigs : List (List Char))
    (p1 : Pairs (fun s o => slotOrig isOther origs (Newline.splitAtNewline stream) s = some o) sl newOrigs) :
    ∃ newExps, Pairs (fun o e => compile o = .ok e) newOrigs newExps ∧
      ∃ d', diffOf newExps stream = some d' ∧ hasDiff d' = false := by
  have hcell := matrix_cell hm
  rw [hcell] at hspec
  obtain ⟨hlen, hget⟩ := hspec
  have hisLine := Newline.splitAtNewline_isLine stream
  generalize hlines : Newline.splitAtNewline stream = lines at *
  -- the text of every entry compiles
  obtain ⟨newExps, p2, p3⟩ := p1.exists_chain (B := fun o e => compile o = .ok e) (C := SlotExp isOther exps lines) (by
    intro s hs o ho
    obtain ⟨k, hk, rfl⟩ := List.getElem_of_mem hs
    rcases hget k hk with ⟨ei, h1, h2⟩ | h1
    · rw [h1] at ho ⊢
      unfold cellOf at h2
      cases he : exps[ei]? with
      | none => simp [he] at h2
      | some e =>
        obtain ⟨o', ho', hoe⟩ := hcomp.get' ei e he
        rw [show origs[ei]? = some o from ho] at ho'
        cases ho'
        exact ⟨e, hoe, he⟩
    · rw [h1] at ho ⊢
      have hkm : k < lines.length := by omega
      obtain ⟨t, ge, rule, ht, hge, hc, hmatch, hself⟩ :=
        compile_generated hC (hisLine lines[k] (List.getElem_mem hkm))
      simp only [slotOrig, List.getElem?_eq_getElem hkm, Option.bind_some, ht, Option.some.injEq] at ho
      subst ho
      exact ⟨⟨rule, false, false⟩, hc, lines[k], ge, rule, List.getElem?_eq_getElem hkm, hge, rfl, hmatch, hself⟩)
  refine ⟨newExps, p2, ?_⟩
  obtain ⟨tbl', htbl'⟩ := matrix_some newExps lines
  have hcell' := matrix_cell htbl'
  have hnl : newExps.length = lines.length := by rw [← p3.length_eq, hlen]
  refine ⟨diff newExps.length lines.length (quant newExps) (cell tbl'), ?_, ?_⟩
  · unfold diffOf; rw [hlines]; simp only [htbl', Option.map_some]
  rw [hcell', hnl]
  apply Scrut.Props.C03.C03_own_lines
  · -- no entry carries a quantifier
    intro k
    unfold quant
    cases he : newExps[k]? with
    | none => rfl
    | some e =>
      obtain ⟨s, hs, hse⟩ := p3.get' k e he
      cases s with
      | kept ei =>
        obtain ⟨h1, h2⟩ := hq e (List.mem_of_getElem? hse)
        simp [h1, h2]
      | gen li =>
        obtain ⟨_, _, _, _, _, he', _, _⟩ := hse
        rw [he']
  · -- entry `k` matches line `k`
    intro k hk
    have hks : k < sl.length := by omega
    obtain ⟨e, he, hse⟩ := p3.get k _ (List.getElem?_eq_getElem hks)
    unfold cellOf
    rw [he, List.getElem?_eq_getElem hk]
    simp only
    rcases hget k hks with ⟨ei, h1, h2⟩ | h1
    · rw [h1] at hse
      unfold cellOf at h2
      rw [show exps[ei]? = some e from hse, List.getElem?_eq_getElem hk] at h2
      exact h2
    · rw [h1] at hse
      obtain ⟨l, ge, rule, hl, _, he', hmatch, hself⟩ := hse
      rw [List.getElem?_eq_getElem hk] at hl
      cases hl
      rw [he']
      simp [hmatch, hself]

theorem judge_ok_iff {t : Test} {recorded : Bytes × Bytes} {code : Int} :
    judge t recorded code = some .ok ↔ code = t.expected.getD 0 ∧
      ∃ d, diffOf t.exps (validateStream t.cfg recorded) = some d ∧ hasDiff d = false := by
  unfold judge updResult
  by_cases hc : code = t.expected.getD 0
  · cases diffOf t.exps (validateStream t.cfg recorded) with
    | none => simp [hc]
    | some d => cases hd : hasDiff d <;> simp [hc, hd]
  · simp [hc]

theorem judge_invalidExit {t : Test} {recorded : Bytes × Bytes} {code a : Int}
    (h : judge t recorded code = some (.invalidExit a)) : a = code := by
  unfold judge updResult at h
  by_cases hc : code = t.expected.getD 0
  · cases hd : diffOf t.exps (validateStream t.cfg recorded) with
    | none => simp [hc, hd] at h
    | some d => cases hh : hasDiff d <;> simp [hc, hd, hh] at h
  · simpa [hc] using h.symm

theorem judge_malformed {t : Test} {recorded : Bytes × Bytes} {code : Int} {d : List DL}
    (h : judge t recorded code = some (.malformed d)) :
    diffOf t.exps (validateStream t.cfg recorded) = some d := by
  unfold judge updResult at h
  by_cases hc : code = t.expected.getD 0
  · cases hd : diffOf t.exps (validateStream t.cfg recorded) with
    | none => simp [hc, hd] at h
    | some d' => cases hh : hasDiff d' <;> simp [hc, hd, hh] at h; rw [h]
  · simp [hc] at h

theorem writtenExpected_getD (code : Int) : (writtenExpected code).getD 0 = code := by
  unfold writtenExpected
  split
  · rfl
  · rename_i h; simp at h; simp [h]

/-- the verdict reads the expected exit code through `unwrap_or(0)` only: a test that passes, passes with
any expected exit code of the same `unwrap_or(0)` -/
theorem Passes.of_expected {c : Yaml.Cfg} {x : List CExp} {e e' : Option Int} {cmd cmd' : List Char}
    {o o' : List (List Char)} {r : Ran} (h : Passes ⟨⟨c, x, e⟩, cmd, o⟩ r) (he : e'.getD 0 = e.getD 0) :
    Passes ⟨⟨c, x, e'⟩, cmd', o'⟩ r := by
  obtain ⟨recorded, hrec, hj⟩ := h
  obtain ⟨hc, hd⟩ := judge_ok_iff.mp hj
  exact ⟨recorded, hrec, judge_ok_iff.mpr ⟨by rw [he]; exact hc, hd⟩⟩

theorem outcomeText_ok {isOther : Char → Bool} {u : UTest} {r : Ran} {o : Gen.UpdResult × Option (List Char)}
    (h : outcomeText isOther u r = .ok o) :
    ∃ recorded text, record u.test.cfg r = some recorded ∧ judge u.test recorded r.code = some o.1 ∧
      o.2 = some text ∧
      Gen.generateTestcaseUpd .unicode isOther u.cmd u.origs o.1 (genLines u.test.cfg recorded o.1) r.code = some text := by
  unfold outcomeText at h
  cases hrec : record u.test.cfg r with
  | none => simp [hrec] at h
  | some recorded =>
    simp only [hrec] at h
    cases hj : judge u.test recorded r.code with
    | none => simp [hj] at h
    | some res =>
      simp only [hj] at h
      cases hg : Gen.generateTestcaseUpd .unicode isOther u.cmd u.origs res (genLines u.test.cfg recorded res) r.code with
      | none => simp [hg] at h
      | some text =>
        simp only [hg] at h
        cases h
        exact ⟨recorded, text, rfl, hj, rfl, hg⟩

theorem passText_isSome (u : UTest) : (passText u).isSome = true := by
  obtain ⟨ex, hex⟩ := expression_isSome u.cmd
  simp [passText, Gen.generateTestcaseUpd, hex]

theorem outcomeText_passes (isOther : Char → Bool) (u : UTest) (r : Ran) (hp : Passes u r) (g : List Char)
    (hg : passText u = some g) : outcomeText isOther u r = .ok (.ok, some g) := by
  obtain ⟨recorded, hrec, hj⟩ := hp
  have hcode := (judge_ok_iff.mp hj).1
  unfold outcomeText
  simp only [hrec, hj]
  have : Gen.generateTestcaseUpd .unicode isOther u.cmd u.origs .ok (genLines u.test.cfg recorded .ok) r.code = some g := by
    rw [← hg, hcode]
    unfold passText Gen.generateTestcaseUpd
    cases Gen.expression u.cmd <;> rfl
  rw [this]

theorem quant_multiline {exps : List CExp} (hq : ∀ e ∈ exps, e.optional = false ∧ e.multiline = false) (i : Nat) :
    (quant exps i).multiline = false := by
  unfold quant
  cases he : exps[i]? with
  | none => rfl
  | some e => exact (hq e (List.mem_of_getElem? he)).2

theorem slotsText_eq {isOther : Char → Bool} (hC : AsciiContract isOther) (origs : List (List Char)) (lines : List Bytes) :
    ∀ (sl : List Slot) (body : List Char), slotsText .unicode isOther origs lines sl = some body →
      ∃ no, Pairs (fun s o => slotOrig isOther origs lines s = some o) sl no ∧ body = no.flatMap assureNewlineC
  | [], body, h => ⟨[], .nil, by cases h; rfl⟩
  | s :: r, body, h => by
    obtain ⟨a, b, h1, h2, rfl⟩ := slotsText_cons_some h
    obtain ⟨no, hno, rfl⟩ := slotsText_eq hC origs lines r b h2
    cases s with
    | kept ei =>
      obtain ⟨o, ho, rfl⟩ := slotText_kept_some h1
      exact ⟨o :: no, .cons ho hno, rfl⟩
    | gen li =>
      obtain ⟨l, o, hl, ho, rfl⟩ := slotText_gen_some h1
      have hnl : '\n' ∉ o := fun hmem => (charOK_not_ctl (m := .unicode) (fun _ => hC)
        (expectationLine_printable .unicode isOther (fun _ => hC) l o ho _ hmem)).2 rfl
      refine ⟨o :: no, .cons (by simp [slotOrig, hl, ho]) hno, ?_⟩
      rw [List.flatMap_cons, assureNewlineC_plain o hnl]

theorem written_slots {isOther : Char → Bool} (hC : AsciiContract isOther) (origs : List (List Char))
    (lines : List Bytes) (hline : ∀ l ∈ lines, Newline.IsLine l)
    (sl : List Slot) (body : List Char) (code : Int)
    (hbody : slotsText .unicode isOther origs lines sl = some body) :
    ∃ newOrigs, Pairs (fun s o => slotOrig isOther origs lines s = some o) sl newOrigs ∧
      withExitCode (headKept sl) body code = withExitCode true (newOrigs.flatMap assureNewlineC) code ∧
      ∀ o ∈ newOrigs, o ∈ origs ∨ ∃ l, Newline.IsLine l ∧ expectationLine .unicode isOther l = some o := by
  obtain ⟨no, hno, hb⟩ := slotsText_eq hC origs _ sl body hbody
  refine ⟨no, hno, ?_, fun o ho => ?_⟩
  · rw [withExitCode_headKept_irrel grammarParams_std .unicode isOther (fun _ => hC) origs _ hline sl body code hbody, hb]
  · obtain ⟨k, hk, rfl⟩ := List.getElem_of_mem ho
    obtain ⟨s, _, hs⟩ := hno.get' k _ (List.getElem?_eq_getElem hk)
    cases s with
    | kept ei => exact Or.inl (List.mem_of_getElem? hs)
    | gen li =>
      cases hl : lines[li]? with
      | none => simp [slotOrig, hl] at hs
      | some l => exact Or.inr ⟨l, hline l (List.mem_of_getElem? hl), by simpa [slotOrig, hl] using hs⟩

/-- the text `g` of an outcome `res` of test `u` on run `r` is made of the expectation lines `newOrigs`: the
command, then these lines and `[code]` placed as for a passing test (`withExitCode true`: `[code]` in front iff
the first line starts with `> `); every line is a retained expectation text or the text generated for an output
line; and (test compiled from its texts, no quantified expectation if the result is `MalformedOutput`) the test
with these lines as expectations passes on the same run -/
structure WrittenLines (isOther : Char → Bool) (u : UTest) (r : Ran) (res : Gen.UpdResult) (g : List Char)
    (newOrigs : List (List Char)) : Prop where
  text : ∃ ex, Gen.expression u.cmd = some ex ∧
    g = ex ++ Gen.withExitCode true (newOrigs.flatMap Gen.assureNewlineC) r.code
  origin : ∀ o ∈ newOrigs, o ∈ u.origs ∨ ∃ l, Newline.IsLine l ∧ Gen.expectationLine .unicode isOther l = some o
  passes : u.Compiled → ((∃ d, res = .malformed d) → Unquantified u) →
    ∃ newExps, Pairs (fun o e => compile o = .ok e) newOrigs newExps ∧
      Passes ⟨⟨u.test.cfg, newExps, writtenExpected r.code⟩, u.cmd, newOrigs⟩ r

theorem WrittenLines.origin_ok {isOther : Char → Bool} (hC : AsciiContract isOther) {u : UTest} {r : Ran}
    {res : Gen.UpdResult} {g : List Char} {newOrigs : List (List Char)} (hw : WrittenLines isOther u r res g newOrigs)
    {o : List Char} (ho : o ∈ newOrigs) :
    o ∈ u.origs ∨ ('\n' ∉ o ∧ o.getLast? ≠ some '\r' ∧ LineParser.isExitCodeForm o = false) := by
  rcases hw.origin o ho with hin | ⟨l, hl, hgen⟩
  · exact Or.inl hin
  · obtain ⟨t0, ht0, hok⟩ := line_ok grammarParams_std .unicode isOther (fun _ => hC) hl
    rw [hgen] at ht0
    cases ht0
    exact Or.inr ⟨hok.no_nl, hok.no_cr, hok.no_exit⟩

theorem outcome_full {isOther : Char → Bool} (hC : AsciiContract isOther) {u : UTest} {r : Ran}
    {res : Gen.UpdResult} {g : List Char} (h : outcomeText isOther u r = .ok (res, some g)) :
    ∃ newOrigs, WrittenLines isOther u r res g newOrigs := by
  obtain ⟨recorded, text, hrec, hj, htext, hgen⟩ := outcomeText_ok h
  simp only at hj htext hgen
  cases htext
  obtain ⟨ex, hex⟩ := expression_isSome u.cmd
  simp only [generateTestcaseUpd, hex] at hgen
  -- a list of entries `sl` over texts `origs` of the test, compiled to `exps`
  have core : ∀ (origs : List (List Char)) (exps : List CExp) (sl : List Slot) (body : List Char),
      (∀ o ∈ origs, o ∈ u.origs) →
      slotsText .unicode isOther origs (Newline.splitAtNewline (validateStream u.test.cfg recorded)) sl = some body →
      g = ex ++ withExitCode (headKept sl) body r.code →
      (u.Compiled → ((∃ d, res = .malformed d) → Unquantified u) →
        Pairs (fun o e => compile o = .ok e) origs exps ∧ (∀ e ∈ exps, e.optional = false ∧ e.multiline = false) ∧
        ∃ tbl, matrix exps (Newline.splitAtNewline (validateStream u.test.cfg recorded)) = some tbl ∧
          SlotsSpec (cell tbl) (Newline.splitAtNewline (validateStream u.test.cfg recorded)).length sl) →
      ∃ newOrigs, WrittenLines isOther u r res g newOrigs := by
    intro origs exps sl body hsub hbody hg hpass
    obtain ⟨newOrigs, p1, hw, horig⟩ := written_slots hC origs _ (Newline.splitAtNewline_isLine _) sl body r.code hbody
    refine ⟨newOrigs, ⟨ex, hex, by rw [hg, hw]⟩, fun o ho => (horig o ho).imp_left (hsub o), fun hcomp hq => ?_⟩
    obtain ⟨hcomp', hq', tbl, hm, hspec⟩ := hpass hcomp hq
    obtain ⟨newExps, p2, d', hd', hnd⟩ := written_list_passes hC origs exps hcomp' hq' _ tbl hm sl hspec newOrigs p1
    exact ⟨newExps, p2, recorded, hrec, judge_ok_iff.mpr ⟨(writtenExpected_getD _).symm, d', hd', hnd⟩⟩
  cases res with
  | ok =>
    -- the test passes as it is: same expectations, the exit code as written
    refine ⟨u.origs, ⟨ex, hex, (Option.some.inj hgen).symm⟩, fun o ho => Or.inl ho, fun hcomp _ => ?_⟩
    exact ⟨u.test.exps, hcomp, recorded, hrec,
      judge_ok_iff.mpr ⟨(writtenExpected_getD _).symm, (judge_ok_iff.mp hj).2⟩⟩
  | invalidExit actual =>
    -- every line is regenerated: the list has no retained entry
    cases judge_invalidExit hj
    change (expectationLines .unicode isOther (Newline.splitAtNewline (validateStream u.test.cfg recorded))).map _ = _ at hgen
    generalize hls : Newline.splitAtNewline (validateStream u.test.cfg recorded) = lines at hgen core
    cases he : expectationLines .unicode isOther lines with
    | none => simp [he] at hgen
    | some e =>
      simp only [he, Option.map_some, Option.some.injEq] at hgen
      refine core [] [] ((rangeFrom 0 lines.length).map .gen) e (by simp) (by rw [slotsText_gen, linesAt_all]; exact he)
        (by rw [headKept_gen, withExitCode_false, ← List.append_assoc]; exact hgen.symm) (fun _ _ => ?_)
      refine ⟨.nil, by simp, [], rfl, by simp [rangeFrom], fun k hk => Or.inr ?_⟩
      simp only [List.getElem_map]
      rw [rangeFrom_zero_get]
  | malformed d =>
    change (diffBody .unicode isOther u.origs (Newline.splitAtNewline (validateStream u.test.cfg recorded)) d).map _ = _ at hgen
    rw [diffBody_eq_slots, firstKept_slots] at hgen
    cases hb : slotsText .unicode isOther u.origs (Newline.splitAtNewline (validateStream u.test.cfg recorded)) (slots d) with
    | none => simp [hb] at hgen
    | some body =>
      simp only [hb, Option.map_some, Option.some.injEq] at hgen
      refine core u.origs u.test.exps (slots d) body (fun _ ho => ho) hb hgen.symm (fun hcomp hq => ?_)
      -- the diff is the matcher's
      obtain ⟨tbl, hm, rfl⟩ := Option.map_eq_some_iff.mp (judge_malformed hj)
      have hu := hq ⟨_, rfl⟩
      exact ⟨hcomp, hu, tbl, hm, slots_spec _ _ _ _ (quant_multiline hu)⟩

theorem outcome_rejudged {isOther : Char → Bool} (hC : AsciiContract isOther) {u : UTest} (hcomp : u.Compiled)
    {r : Ran} {res : Gen.UpdResult} {g : List Char} (h : outcomeText isOther u r = .ok (res, some g))
    (hq : (∃ d, res = .malformed d) → Unquantified u) :
    ∃ u', RewrittenAs u u' r.code ∧ passText u' = some g ∧ Passes u' r := by
  obtain ⟨newOrigs, ⟨ex, hex, hg⟩, _, hpass⟩ := outcome_full hC h
  obtain ⟨newExps, hne, hps⟩ := hpass hcomp hq
  exact ⟨⟨⟨u.test.cfg, newExps, writtenExpected r.code⟩, u.cmd, newOrigs⟩, ⟨rfl, rfl, hne, rfl⟩,
    by simp only [passText, Gen.generateTestcaseUpd, hex, writtenExpected_getD, hg], hps⟩

end Scrut.UpdateRun
