import ScrutModel.Lemmas.CramCount
/-! Indented lines that are not below a command are an error (since fix 67abd12), for every document. -/
namespace Scrut.Cram
open Scrut.LineParser

theorem closed_run (expOk : List Char → Bool) (ind : List Char) (pre : List (List Char)) {s s' : St} {i : Nat}
    (b : Bool) (hb : b = true → s.command = []) (he : run expOk ind s i pre = .ok s')
    (hc : closedAfterGo ind b pre = true) : s'.command = [] := by
  induction pre generalizing s i b with
  | nil =>
    simp only [run] at he; cases he
    exact hb (by simpa [closedAfterGo] using hc)
  | cons l ls ih =>
    simp only [run] at he
    split at he
    · cases he
    · next s1 hs1 =>
      unfold closedAfterGo at hc
      rcases step_ok hs1 with ⟨hcm, rfl⟩ | ⟨hcm, ⟨rfl, h1⟩ | ⟨hne, ⟨body, s2, ct, hbody, _, rfl⟩ | ⟨hnone, s2, hs2, rfl⟩⟩⟩
      · rw [if_pos hcm] at hc
        exact ih b hb he hc
      · -- a blank line: the test, if any, has ended
        simp only [hcm, Bool.false_eq_true, if_false, List.isEmpty_nil, if_true] at hc
        refine ih true (fun _ => ?_) he hc
        rcases h1 with ⟨hnb, rfl⟩ | ⟨_, h1⟩
        · exact command_of_not_hasBody hnb
        · exact endTestcase_command h1
      · -- an indented line
        have hemp : l.isEmpty = false := by simpa using hne
        simp only [hcm, Bool.false_eq_true, if_false, hemp, hbody] at hc
        exact ih false (by simp) he hc
      · -- a title line ends the test
        have hemp : l.isEmpty = false := by simpa using hne
        simp only [hcm, Bool.false_eq_true, if_false, hemp, hnone] at hc
        exact ih (s := s2.setTitle l) true (fun _ => endTestcase_command (s' := s2) hs2) he hc

theorem step_orphan (expOk : List Char → Bool) (ind : List Char) (s : St) (i : Nat) (line : List Char)
    (hc : s.command = []) (hl : isBodyLine ind line = true) : ∃ e, step expOk ind s i line = .error e := by
  simp only [isBodyLine, Bool.and_eq_true, Bool.not_eq_true'] at hl
  obtain ⟨⟨h1, h2⟩, h3⟩ := hl
  cases hs : stripPrefix ind line with
  | none => simp [hs] at h3
  | some body =>
    simp only [hs, Option.isNone_iff_eq_none] at h3
    obtain ⟨e, he⟩ := addBody_without_command expOk i hc h3
    exact ⟨e, by simp [step, h1, h2, hs, he]⟩

theorem parseLines_orphan (expOk : List Char → Bool) (ind : List Char) (pre post : List (List Char))
    (line : List Char) (hp : closedAfter ind pre = true) (hl : isBodyLine ind line = true) :
    ∃ e, parseLines expOk ind (pre ++ line :: post) = .error e := by
  unfold parseLines
  rw [run_append]
  cases hr : run expOk ind (State.new true) 0 pre with
  | error e => exact ⟨e, rfl⟩
  | ok s =>
    have hc : s.command = [] := closed_run expOk ind pre true (fun _ => rfl) hr hp
    obtain ⟨e, he⟩ := step_orphan expOk ind s (0 + pre.length) line hc hl
    exact ⟨e, by simp only [run, he]⟩

end Scrut.Cram
