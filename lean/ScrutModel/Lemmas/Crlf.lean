import ScrutModel.Model.Crlf
/-! `replace_crlf` (the loop) computes the specification and never panics; how the specification commutes
with concatenation and with finding a text that holds no LF; `render_output` when nothing is stripped. -/
namespace Scrut.Crlf

theorem spec_of_findCrlf_none : ∀ bs : List UInt8, findCrlf bs = none → replaceCrlfSpec bs = bs := by
  intro bs
  induction bs with
  | nil => intro _; rfl
  | cons a t ih =>
    intro h
    unfold findCrlf at h
    by_cases hc : a = CR ∧ t.head? = some LF
    · simp [hc] at h
    · simp only [hc, if_false, Option.map_eq_none_iff] at h
      unfold replaceCrlfSpec
      simp only [hc, if_false, ih h]

theorem spec_of_findCrlf_some : ∀ (bs : List UInt8) (i : Nat), findCrlf bs = some i →
    i + 1 ≤ bs.length ∧ replaceCrlfSpec bs = bs.take i ++ replaceCrlfSpec (bs.drop (i + 1)) := by
  intro bs
  induction bs with
  | nil => intro i h; simp [findCrlf] at h
  | cons a t ih =>
    intro i h
    unfold findCrlf at h
    by_cases hc : a = CR ∧ t.head? = some LF
    · simp only [hc, and_self, if_true, Option.some.injEq] at h
      subst h
      constructor
      · simp
      · conv => lhs; unfold replaceCrlfSpec
        simp [hc]
    · simp only [hc, if_false, Option.map_eq_some_iff] at h
      obtain ⟨j, hj, rfl⟩ := h
      obtain ⟨h1, h2⟩ := ih j hj
      constructor
      · simp; omega
      · conv => lhs; unfold replaceCrlfSpec
        simp only [hc, if_false]
        rw [h2]
        simp

theorem crlfLoop_eq : ∀ (fuel : Nat) (replaced rest : List UInt8) (index : Nat),
    findCrlf rest = some index → rest.length ≤ fuel →
    crlfLoop fuel replaced rest index = some (replaced ++ replaceCrlfSpec rest) := by
  intro fuel
  induction fuel with
  | zero =>
    intro replaced rest index h hl
    have : rest = [] := List.length_eq_zero_iff.1 (Nat.le_zero.1 hl)
    subst this
    simp [findCrlf] at h
  | succ fuel ih =>
    intro replaced rest index h hl
    obtain ⟨h1, h2⟩ := spec_of_findCrlf_some rest index h
    have hle : index ≤ rest.length := by omega
    unfold crlfLoop
    simp only [sliceTo?, sliceFrom?, hle, h1, if_true]
    cases hn : findCrlf (rest.drop (index + 1)) with
    | none =>
      simp only
      rw [h2, spec_of_findCrlf_none _ hn]
      simp
    | some next =>
      simp only
      have hlen : (rest.drop (index + 1)).length ≤ fuel := by
        simp only [List.length_drop]; omega
      rw [ih (replaced ++ rest.take index) (rest.drop (index + 1)) next hn hlen, h2]
      simp

theorem replaceCrlf_eq_spec (bs : List UInt8) : replaceCrlf bs = some (replaceCrlfSpec bs) := by
  unfold replaceCrlf
  cases h : findCrlf bs with
  | none => simp [spec_of_findCrlf_none bs h]
  | some i =>
    simp only
    rw [crlfLoop_eq bs.length [] bs i h (Nat.le_refl _)]
    simp

theorem spec_sublist : ∀ bs : List UInt8, (replaceCrlfSpec bs).Sublist bs := by
  intro bs
  induction bs with
  | nil => exact List.Sublist.slnil
  | cons a t ih =>
    unfold replaceCrlfSpec
    by_cases hc : a = CR ∧ t.head? = some LF
    · simp only [hc, and_self, if_true]; exact List.Sublist.cons _ ih
    · simp only [hc, if_false]; exact List.Sublist.cons_cons _ ih

theorem spec_filter_ne_cr : ∀ bs : List UInt8,
    (replaceCrlfSpec bs).filter (· ≠ CR) = bs.filter (· ≠ CR) := by
  intro bs
  induction bs with
  | nil => rfl
  | cons a t ih =>
    unfold replaceCrlfSpec
    by_cases hc : a = CR ∧ t.head? = some LF
    · simp only [hc, and_self, if_true, ih]
      simp
    · simp only [hc, if_false]
      simp only [ne_eq, decide_not] at ih
      simp [List.filter_cons, ih]

theorem renderOutput_no_strip (keepCrlf stripAnsi : Option Bool) (strip : List UInt8 → Option (List UInt8)) (bs : List UInt8)
    (hs : stripAnsi ≠ some true) :
    renderOutput keepCrlf stripAnsi strip bs = some (if keepCrlf = some true then bs else replaceCrlfSpec bs) := by
  by_cases hk : keepCrlf = some true
  · simp [renderOutput, hs, hk]
  · simp [renderOutput, hs, hk, replaceCrlf_eq_spec]

theorem renderOutput_strip (keepCrlf : Option Bool) (strip : List UInt8 → Option (List UInt8)) (bs : List UInt8) :
    renderOutput keepCrlf (some true) strip bs = strip (if keepCrlf = some true then bs else replaceCrlfSpec bs) := by
  by_cases hk : keepCrlf = some true
  · simp [renderOutput, hk]
  · simp [renderOutput, hk, replaceCrlf_eq_spec]

/-- a right part that does not start with LF cannot complete a CR LF across the seam -/
theorem spec_append_of_head (a b : List UInt8) (hb : b.head? ≠ some LF) :
    replaceCrlfSpec (a ++ b) = replaceCrlfSpec a ++ replaceCrlfSpec b := by
  induction a with
  | nil => rfl
  | cons x t ih =>
    have hh : ((t ++ b).head? = some LF) = (t.head? = some LF) := by
      cases t with
      | nil => simp [hb]
      | cons y t' => simp
    simp only [List.cons_append, replaceCrlfSpec, hh, ih]
    by_cases hc : x = CR ∧ t.head? = some LF
    · simp only [hc, and_self, if_true]
    · simp only [hc, if_false, List.cons_append]

theorem spec_append_no_cr (a b : List UInt8) (ha : CR ∉ a) :
    replaceCrlfSpec (a ++ b) = a ++ replaceCrlfSpec b := by
  induction a with
  | nil => rfl
  | cons x t ih =>
    have hx : x ≠ CR := fun e => ha (by simp [e])
    have ht : CR ∉ t := fun e => ha (by simp [e])
    simp only [List.cons_append, replaceCrlfSpec, hx, false_and, if_false, ih ht]

theorem spec_cr_lf (t : List UInt8) : replaceCrlfSpec (CR :: LF :: t) = LF :: replaceCrlfSpec t := by
  have h : ¬ ((LF : UInt8) = CR ∧ t.head? = some LF) := fun h => absurd h.1 (by decide)
  simp only [replaceCrlfSpec, List.head?_cons, and_self, if_true, h, if_false]

theorem prefix_of_prefix_spec : ∀ (q n : List UInt8), LF ∉ n → n <+: replaceCrlfSpec q → n <+: q := by
  intro q
  induction q with
  | nil => intro n _ h; simpa [replaceCrlfSpec] using h
  | cons a t ih =>
    intro n hn h
    by_cases hc : a = CR ∧ t.head? = some LF
    · obtain ⟨ha, ht⟩ := hc
      cases t with
      | nil => simp at ht
      | cons y t' =>
        simp only [List.head?_cons, Option.some.injEq] at ht
        subst ha ht
        rw [spec_cr_lf] at h
        cases n with
        | nil => exact List.nil_prefix
        | cons z n' =>
          have := (List.cons_prefix_cons.1 h).1
          -- behind a replaced CR LF the result starts with LF, which `n` does not hold
          exact absurd (by simp [this]) hn
    · simp only [replaceCrlfSpec, hc, if_false] at h
      cases n with
      | nil => exact List.nil_prefix
      | cons z n' =>
        obtain ⟨hz, hp⟩ := List.cons_prefix_cons.1 h
        have hn' : LF ∉ n' := fun e => hn (by simp [e])
        exact List.cons_prefix_cons.2 ⟨hz, ih n' hn' hp⟩

theorem infix_of_infix_spec : ∀ (p n : List UInt8), LF ∉ n → n <:+: replaceCrlfSpec p → n <:+: p := by
  intro p
  induction p with
  | nil => intro n _ h; simpa [replaceCrlfSpec] using h
  | cons a t ih =>
    intro n hn h
    by_cases hc : a = CR ∧ t.head? = some LF
    · simp only [replaceCrlfSpec, hc, and_self, if_true] at h
      exact List.IsInfix.trans (ih n hn h) (List.suffix_cons a t).isInfix
    · have hs : replaceCrlfSpec (a :: t) = a :: replaceCrlfSpec t := by
        simp only [replaceCrlfSpec, hc, if_false]
      rw [hs, List.infix_cons_iff] at h
      rcases h with h | h
      · rw [← hs] at h
        exact (prefix_of_prefix_spec (a :: t) n hn h).isInfix
      · exact List.IsInfix.trans (ih n hn h) (List.suffix_cons a t).isInfix

end Scrut.Crlf
