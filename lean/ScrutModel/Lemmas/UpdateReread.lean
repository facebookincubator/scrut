import ScrutModel.Lemmas.Update
import ScrutModel.Model.Cram
import ScrutModel.Model.Generate
/-!
What `update` writes is read back: lines terminated by LF by `str::lines()` (`splitLines_unlines`), the fence line of
a rewritten block by the fence recogniser, with the configuration text `writtenCfg` (`fence_line_reread_cfg`).  The
copies of `str::lines()`, `assure_newline` and the like in the Cram and generator models are shown to be the same
functions here, in one place.
-/
namespace Scrut.Update
open Scrut.Markdown Scrut.LineParser

/-- the line that `splitLinesAux` emits for the reversed accumulator -/
def lineOf (racc : List Char) : Line :=
  match racc with
  | '\r' :: a => a.reverse
  | _ => racc.reverse

theorem splitLinesAux_cons (c : Char) (rest acc : List Char) :
    splitLinesAux (c :: rest) acc =
      if c = '\n' then lineOf acc :: splitLinesAux rest [] else splitLinesAux rest (c :: acc) := by
  by_cases hc : c = '\n'
  · simp only [splitLinesAux, hc, if_true, lineOf]
    cases acc with
    | nil => rfl
    | cons x xs =>
      by_cases hx : x = '\r'
      · subst hx; rfl
      · -- both sides look at the first character of the accumulator, which is no carriage return
        split <;> split <;> simp_all
  · simp only [splitLinesAux, hc, if_false]

theorem splitLinesAux_line (l : Line) (t : List Char) (hnl : '\n' ∉ l) :
    ∀ acc, splitLinesAux (l ++ '\n' :: t) acc = lineOf (l.reverse ++ acc) :: splitLinesAux t [] := by
  induction l with
  | nil => intro acc; rw [List.nil_append, splitLinesAux_cons, if_pos rfl]; rfl
  | cons c r ih =>
    intro acc
    have hc : c ≠ '\n' := fun h => hnl (by simp [h])
    rw [List.cons_append, splitLinesAux_cons, if_neg hc, ih (fun h => hnl (by simp [h])) (c :: acc),
      List.reverse_cons, List.append_assoc, List.singleton_append]

theorem lineOf_reverse (l : Line) (hcr : l.getLast? ≠ some '\r') : lineOf l.reverse = l := by
  unfold lineOf
  split
  · rename_i a h
    exfalso
    apply hcr
    have : l = (('\r' : Char) :: a).reverse := by rw [← h]; simp
    rw [this]
    simp
  · simp

theorem splitLines_line (l : Line) (t : List Char) (h : Clean l) :
    splitLines (l ++ '\n' :: t) = l :: splitLines t := by
  unfold splitLines
  rw [splitLinesAux_line l t h.1 [], List.append_nil, lineOf_reverse l h.2]

theorem splitLines_unlines_append (ls : List Line) (h : ∀ l ∈ ls, Clean l) (t : List Char) :
    splitLines (unlines ls ++ t) = ls ++ splitLines t := by
  induction ls with
  | nil => rfl
  | cons l r ih =>
    rw [unlines_cons, List.cons_append, ← List.cons_append, List.append_assoc]
    show splitLines (l ++ ('\n' :: (unlines r ++ t))) = _
    rw [splitLines_line l _ (h l (by simp)), ih (fun x hx => h x (by simp [hx]))]
    rfl

theorem splitLines_unlines (ls : List Line) (h : ∀ l ∈ ls, Clean l) :
    splitLines (unlines ls) = ls := by
  simpa [splitLines, splitLinesAux] using splitLines_unlines_append ls h []

theorem cramLines_eq_splitLines : Cram.lines = splitLines := by
  have hcr : ∀ acc, Cram.stripCr acc = lineOf acc := by
    intro acc
    cases acc with
    | nil => rfl
    | cons x xs =>
      by_cases hx : x = '\r'
      · subst hx; rfl
      · unfold Cram.stripCr lineOf
        split <;> split <;> simp_all
  funext t
  suffices ∀ acc, Cram.linesGo t acc = splitLinesAux t acc from this []
  induction t with
  | nil => intro acc; rfl
  | cons c r ih => intro acc; rw [splitLinesAux_cons, Cram.linesGo, ih, ih, hcr]

theorem cramUnlines_eq_unlines : Cram.unlines = unlines := by
  funext ls
  induction ls with
  | nil => rfl
  | cons l r ih => rw [Cram.unlines, ih, unlines_cons]

theorem assureNewlineC_eq_assureNewline : Gen.assureNewlineC = assureNewline := by
  funext t
  simp [Gen.assureNewlineC, assureNewline]

theorem leadingBackticks_eq : ∀ l : Line, Gen.leadingBackticks l = leadingBackticks l
  | [] => rfl
  | c :: r => by
    by_cases hc : c = '`'
    · subst hc
      have ih := leadingBackticks_eq r
      simp only [leadingBackticks] at ih ⊢
      simp [Gen.leadingBackticks, ih]
    · simp [Gen.leadingBackticks, leadingBackticks, hc]

theorem splitOnNl_eq_splitNl : ∀ (t cur : List Char), Gen.splitOnNl t cur = Gen.splitNl t cur
  | [], _ => rfl
  | c :: rest, cur => by
    simp only [Gen.splitOnNl, Gen.splitNl, splitOnNl_eq_splitNl rest]

/-- a language name as `update` can write it back so that it is read again: no backtick, no `{`,
no white space -/
def LangOK (lang : Line) : Prop := ∀ c ∈ lang, c ≠ '`' ∧ c ≠ '{' ∧ isWhite c = false

theorem dropWhile_white_of_ok (l : Line) (h : ∀ c ∈ l, isWhite c = false) : l.dropWhile isWhite = l := by
  cases l with
  | nil => rfl
  | cons c r => simp [List.dropWhile, h c (by simp)]

theorem trim_ok (lang : Line) (h : LangOK lang) : trim lang = lang := by
  have hw : ∀ c ∈ lang, isWhite c = false := fun c hc => (h c hc).2.2
  unfold trim trimEnd trimStart
  rw [dropWhile_white_of_ok lang hw, dropWhile_white_of_ok lang.reverse (fun c hc => hw c (by simpa using hc))]
  simp

theorem trim_ok_space (lang : Line) (h : LangOK lang) : trim (lang ++ [' ']) = lang := by
  have hw : ∀ c ∈ lang, isWhite c = false := fun c hc => (h c hc).2.2
  have hsp : isWhite ' ' = true := by decide +kernel
  unfold trim trimEnd trimStart
  cases lang with
  | nil => simp [List.dropWhile, hsp]
  | cons c r =>
    have hc : isWhite c = false := hw c (by simp)
    have h1 : (c :: r ++ [' ']).dropWhile isWhite = c :: r ++ [' '] := by simp [hc]
    rw [h1]
    have h2 : (c :: r ++ [' ']).reverse = ' ' :: (c :: r).reverse := by simp
    rw [h2]
    simp only [List.dropWhile, hsp]
    rw [dropWhile_white_of_ok (c :: r).reverse (fun x hx => hw x (List.mem_reverse.mp hx))]
    simp

theorem trimEnd_braces (c : Line) : trimEnd ('{' :: (c ++ ['}'])) = '{' :: (c ++ ['}']) := by
  unfold trimEnd
  have h2 : ('{' :: (c ++ ['}'])).reverse = '}' :: ('{' :: c).reverse := by simp
  have hb : isWhite '}' = false := by decide +kernel
  rw [h2]
  simp [List.dropWhile, hb]

theorem not_contains_backtick {l : Line} (h : ∀ c ∈ l, c ≠ '`') : l.contains '`' = false := by
  cases hc : l.contains '`' with
  | false => rfl
  | true => exact absurd rfl (h _ (by simpa using hc))

theorem fencePure_backticks (n : Nat) (hn : 3 ≤ n) (info : Line)
    (hne : info = [] ∨ info.takeWhile (· ≠ '{') ≠ [])
    (hb : (info.takeWhile (· ≠ '{')).contains '`' = false) :
    fencePure (backticks n ++ info)
      = some (backticks n, trim (info.takeWhile (· ≠ '{')), trimEnd (info.dropWhile (· ≠ '{'))) := by
  have h3 : 3 ≤ (backticks n).length := by simpa [backticks] using hn
  cases info with
  | nil =>
    obtain ⟨ht, hi⟩ := fence_backticks n [] (by simp)
    rw [fencePure_eq, isFenceLine, fenceLang, fenceParts, hi, ht]
    simp [h3, trim, trimStart, trimEnd]
  | cons ch rest =>
    have hbrace : ch ≠ '{' := by
      rintro rfl
      simp at hne
    have htick : ch ≠ '`' := by
      rintro rfl
      simp [hbrace] at hb
    obtain ⟨ht, hi⟩ := fence_backticks n (ch :: rest) (by simpa using htick)
    rw [fencePure_eq, isFenceLine, fenceLang, fenceParts, hi, ht, hb]
    simp [h3, hbrace]

theorem fence_reread (n : Nat) (hn : 3 ≤ n) (lang : Line) (hl : LangOK lang) :
    fencePure (backticks n ++ lang) = some (backticks n, lang, []) := by
  have hbrace : ∀ a ∈ lang, (decide (a ≠ '{')) = true := fun a ha => decide_eq_true (hl a ha).2.1
  have htw : lang.takeWhile (· ≠ '{') = lang := by
    simpa using List.takeWhile_append_of_pos (l₂ := []) hbrace
  have hdw : lang.dropWhile (· ≠ '{') = [] := by
    simpa using List.dropWhile_append_of_pos (l₂ := []) hbrace
  rw [fencePure_backticks n hn lang (by rw [htw]; cases lang <;> simp)
    (by rw [htw]; exact not_contains_backtick fun a ha => (hl a ha).1), htw, hdw, trim_ok lang hl]
  rfl

theorem fence_reread_config (n : Nat) (hn : 3 ≤ n) (lang : Line) (hl : LangOK lang) (cfg : Line) :
    fencePure (backticks n ++ lang ++ ' ' :: '{' :: (cfg ++ ['}']))
      = some (backticks n, lang, '{' :: (cfg ++ ['}'])) := by
  -- up to its first `{` the info string is `lang ++ " "`
  have hpre : ∀ a ∈ lang ++ [' '], a ≠ '`' ∧ a ≠ '{' := by
    intro a ha
    rcases List.mem_append.mp ha with ha | ha
    · exact ⟨(hl a ha).1, (hl a ha).2.1⟩
    · rw [List.mem_singleton.mp ha]; decide
  have hbrace : ∀ a ∈ lang ++ [' '], (decide (a ≠ '{')) = true := fun a ha => decide_eq_true (hpre a ha).2
  have e : lang ++ ' ' :: '{' :: (cfg ++ ['}']) = (lang ++ [' ']) ++ '{' :: (cfg ++ ['}']) := by
    rw [List.append_assoc]; rfl
  have htw : ((lang ++ [' ']) ++ '{' :: (cfg ++ ['}'])).takeWhile (· ≠ '{') = lang ++ [' '] := by
    rw [List.takeWhile_append_of_pos hbrace, List.takeWhile_cons_of_neg (by decide), List.append_nil]
  have hdw : ((lang ++ [' ']) ++ '{' :: (cfg ++ ['}'])).dropWhile (· ≠ '{') = '{' :: (cfg ++ ['}']) := by
    rw [List.dropWhile_append_of_pos hbrace, List.dropWhile_cons_of_neg (by decide)]
  rw [List.append_assoc, e, fencePure_backticks n hn _ (by rw [htw]; simp)
      (by rw [htw]; exact not_contains_backtick fun a ha => (hpre a ha).1),
    htw, hdw, trim_ok_space lang hl, trimEnd_braces]

theorem dropWhile_idem (p : Char → Bool) (l : Line) : (l.dropWhile p).dropWhile p = l.dropWhile p := by
  induction l with
  | nil => rfl
  | cons c r ih =>
    by_cases hc : p c = true
    · simp [List.dropWhile, hc, ih]
    · have hc : p c = false := by simpa using hc
      simp [List.dropWhile, hc]

theorem stripBraces_eq_some {config c : Line} :
    stripBraces config = some c ↔ c ≠ [] ∧ config = '{' :: (c ++ ['}']) := by
  unfold stripBraces
  constructor
  · intro h
    split at h
    · rename_i r
      split at h
      · rename_i m hm
        split at h
        · cases h
        · rename_i hne
          obtain rfl := Option.some.inj h
          have hr : r = m.reverse ++ ['}'] := by rw [← List.reverse_reverse r, hm, List.reverse_cons]
          exact ⟨by simpa using hne, by rw [hr]⟩
      · cases h
    · cases h
  · rintro ⟨hne, rfl⟩
    have : c.reverse.isEmpty = false := by simpa using hne
    simp [this]

theorem stripBraces_braces (u : Line) (hu : u ≠ []) : stripBraces ('{' :: (u ++ ['}'])) = some u :=
  stripBraces_eq_some.mpr ⟨hu, rfl⟩

theorem blankStart_idem (t : Line) : blankStart (blankStart t) = blankStart t := by
  induction t with
  | nil => rfl
  | cons c r ih =>
    by_cases hc : c = ' ' ∨ c = '\t'
    · simp only [blankStart, hc, if_true, ih]
    · simp only [blankStart, hc, if_false]

theorem isWhite_of_blank {c : Char} (hc : c = ' ' ∨ c = '\t') : isWhite c = true := by
  rcases hc with h | h <;> subst h <;> decide

theorem trimStart_blankStart (t : Line) : trimStart (blankStart t) = trimStart t := by
  induction t with
  | nil => rfl
  | cons c r ih =>
    by_cases hc : c = ' ' ∨ c = '\t'
    · simp only [blankStart, hc, if_true, ih]
      simp [trimStart, List.dropWhile, isWhite_of_blank hc]
    · simp only [blankStart, hc, if_false]

theorem trim_blankStart (t : Line) : trim (blankStart t) = trim t := by
  simp only [trim, trimStart_blankStart]

theorem blankStart_ne_nil {t : Line} (h : (trim t).isEmpty = false) : blankStart t ≠ [] := by
  intro hb
  have h1 := trim_blankStart t
  rw [hb] at h1
  rw [← h1] at h
  exact absurd h (by decide)

theorem mem_blankStart {c : Char} {t : Line} (h : c ∈ blankStart t) : c ∈ t := by
  induction t with
  | nil => exact h
  | cons d r ih =>
    by_cases hd : d = ' ' ∨ d = '\t'
    · simp only [blankStart, hd, if_true] at h
      exact List.mem_cons_of_mem _ (ih h)
    · simpa only [blankStart, hd, if_false] using h

/-- the texts of the configuration lines the tokenizer reads from the fence line `update` writes for a block
with the configuration lines `cfg`: none if they hold white space only, otherwise one, the joined text without
its leading blanks and tabs (`trim_start_matches([' ', '\t'])`, what YAML skips itself) -/
def writtenCfg (cfg : Numbered) : List Line :=
  if (trim (joinNumbered cfg)).isEmpty then [] else [blankStart (joinNumbered cfg)]

theorem fence_line_reread_cfg (n : Nat) (hn : 3 ≤ n) (lang : Line) (hl : LangOK lang) (cfg : Numbered) :
    ∃ config', fencePure (backticks n ++ lang ++ configSuffix cfg) = some (backticks n, lang, config') ∧
      (∀ j, configSuffix (cfgLines j config') = configSuffix cfg) ∧
      ∀ j, (cfgLines j config').map (·.2) = writtenCfg cfg := by
  by_cases he : (trim (joinNumbered cfg)).isEmpty = true
  · refine ⟨[], ?_, ?_, ?_⟩
    · simp only [configSuffix, he, if_true, List.append_nil]
      exact fence_reread n hn lang hl
    · intro j
      have h1 : configSuffix cfg = [] := by simp only [configSuffix, he, if_true]
      have h2 : configSuffix (cfgLines j []) = [] := by rfl
      rw [h1, h2]
    · intro j
      simp only [writtenCfg, he, if_true]
      rfl
  · have he : (trim (joinNumbered cfg)).isEmpty = false := by simpa using he
    unfold writtenCfg
    generalize ht : joinNumbered cfg = t at he
    have hu : blankStart t ≠ [] := blankStart_ne_nil he
    refine ⟨'{' :: (blankStart t ++ ['}']), ?_, ?_, ?_⟩
    · simp only [configSuffix, ht, he, Bool.false_eq_true, if_false]
      exact fence_reread_config n hn lang hl (blankStart t)
    · intro j
      have hj : joinNumbered [(j, blankStart t)] = blankStart t := by simp [joinNumbered, joinNl]
      have hi : blankStart (blankStart t) = blankStart t := blankStart_idem t
      have htr : trim (blankStart t) = trim t := trim_blankStart t
      simp only [cfgLines, stripBraces_braces _ hu, configSuffix, hj, ht, htr, he, hi]
    · intro j
      simp only [cfgLines, stripBraces_braces _ hu, he, Bool.false_eq_true, if_false, List.map_cons, List.map_nil]

end Scrut.Update
