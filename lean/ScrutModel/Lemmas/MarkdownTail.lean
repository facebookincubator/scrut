import ScrutModel.Lemmas.MarkdownWF
/-!
# A document whose last construct is unterminated is read as if the construct had been closed
-/
namespace Scrut.Markdown
open Scrut.LineParser

theorem tail_docTexts_closed (tail : Tail) : tail.docTexts = docTexts tail.closed := by
  cases tail <;> rfl

theorem tailTests_closed (env : Env) (tail : Tail) (li : Nat) (t : Option Line) (tp : List Line) :
    tailTests tail li t = expectedTests env tail.closed li t tp := by
  cases tail <;> rfl

theorem parseLines_render_tail_closed (env : Env) (items : List Item) (tail : Tail)
    (wf : ItemsWF env false items) (wft : tail.WF env (csAfterAll false items)) :
    parseLines env (render items ++ tail.lines)
      = .ok { docConfigs := docTexts (items ++ tail.closed)
              tests := expectedTests env (items ++ tail.closed) 0 none [] } := by
  rw [parseLines_render_tail env items tail wf wft, docTexts_append, expectedTests_append,
    tail_docTexts_closed, tailTests_closed env tail _ _ (titleAfter env items none []).2, Nat.zero_add]

theorem tail_wf_of_closed (env : Env) (tail : Tail) (cs : Bool) (h : ItemsWF env cs tail.closed) :
    tail.WF env cs := by
  cases tail with
  | none => trivial
  | openFront body => exact h.1
  | openForeign v =>
    obtain ⟨⟨h1, h2, h3, h4, _⟩, _⟩ := h
    exact ⟨h1, h2, h3, h4⟩
  | openNoCommand v =>
    obtain ⟨⟨h1, h2, h3, h4, _, h6⟩, _⟩ := h
    exact ⟨h1, h2, h3, h4, h6⟩
  | openBlock b =>
    obtain ⟨⟨h1, h2, h3, h4, _, h6, h7, h8, h9⟩, _⟩ := h
    exact ⟨h1, h2, h3, h4, h6, h7, h8, h9⟩

end Scrut.Markdown
