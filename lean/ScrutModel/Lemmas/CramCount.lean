import ScrutModel.Lemmas.CramInv
/-! For **every** document that parses: the tests are in one-to-one, order-preserving correspondence
with the indented `$ ` lines (line number and first command line). -/
namespace Scrut.Cram
open Scrut.LineParser

def keys (s : St) : List (Nat × Option (List Char)) :=
  s.testcases.map keyOf ++
    (match s.command with
     | [] => []
     | c :: _ => [(s.outputStartIndex.getD 0 + 1, some c)])

/-- `output_start_index` is set exactly while a command is open; `allow_multiple_commands` -/
def Started (s : St) : Prop :=
  (s.command ≠ [] → s.outputStartIndex.isSome = true) ∧ (s.command = [] → s.outputStartIndex = none) ∧
    s.allowMultipleCommands = true

theorem endTestcase_keys {s s' : St} {i : Nat} (h : Started s) (he : s.endTestcase i = .ok s') :
    keys s' = keys s ∧ s'.command = [] ∧ Started s' := by
  rcases endTestcase_ok he with ⟨hc, rfl⟩ | ⟨hc, rfl⟩
  · exact ⟨rfl, hc, h⟩
  · obtain ⟨o, ho⟩ := Option.isSome_iff_exists.mp (h.1 hc)
    obtain ⟨c, cs, hcmd⟩ := List.exists_cons_of_ne_nil hc
    exact ⟨by simp [keys, State.flush, State.pending, keyOf, hcmd, ho], rfl,
      fun h0 => absurd rfl h0, fun _ => rfl, h.2.2⟩

theorem addBody_keys (expOk : List Char → Bool) {s s' : St} {body : List Char} {i : Nat} {ct : CodeType}
    (h : Started s) (he : s.addBody expOk body i = .ok (s', ct)) :
    Started s' ∧
      keys s' = keys s ++ (match stripPrefix ['$', ' '] body with
        | some c => [(i + 1, some c)]
        | none => []) := by
  rcases addBody_ok expOk he with
    ⟨l, s1, hl, _, hs1, rfl⟩ | ⟨hne, hstart, ⟨l, _, _, _, rfl⟩ | ⟨_, ⟨c, _, _, _, rfl⟩ | ⟨_, _, _, rfl⟩⟩⟩
  · -- a command starts: the engine is idle, before the line or after `end_testcase`
    have h1 : keys s1 = keys s ∧ s1.command = [] ∧ Started s1 := by
      rcases hs1 with ⟨hc, rfl⟩ | ⟨_, hs1⟩
      · exact ⟨rfl, hc, h⟩
      · exact endTestcase_keys (s := { s with inCommand := true }) h hs1
    obtain ⟨hk, hc, h1, h2, ha⟩ := h1
    refine ⟨⟨fun _ => by simp [h2 hc], fun h0 => by simp at h0, ha⟩, ?_⟩
    rw [hl, ← hk]
    simp [keys, hc, h2 hc]
  all_goals
    -- no command starts: the open command, its line number and the finished tests stay
    obtain ⟨c, cs, hcmd⟩ := List.exists_cons_of_ne_nil hne
    simp [Started, keys, hcmd, hstart h.2.2] at h ⊢
    exact h

theorem cmdOf_nil (ind : List Char) : cmdOf ind [] = none := by
  cases ind <;> simp [cmdOf, isComment, stripPrefix]

theorem step_keys (expOk : List Char → Bool) (ind : List Char) {s s' : St} {line : List Char} {i : Nat}
    (h : Started s) (he : step expOk ind s i line = .ok s') :
    Started s' ∧ keys s' = keys s ++ (match cmdOf ind line with
      | some c => [(i + 1, some c)]
      | none => []) := by
  rcases step_ok he with ⟨hc, rfl⟩ | ⟨hnc, ⟨rfl, ⟨_, rfl⟩ | ⟨_, he⟩⟩ | ⟨_, ⟨body, s1, ct, hbody, hs1, rfl⟩ | ⟨hnone, s1, hs1, rfl⟩⟩⟩
  · simp [cmdOf, hc, h]
  · simp [cmdOf_nil, h]
  · have := endTestcase_keys h he
    simp [cmdOf_nil, this.1, this.2.2]
  · have := addBody_keys expOk h hs1
    refine ⟨this.1, ?_⟩
    rw [show keys (s1.setConfig TCConfig.defaultCram) = keys s1 from rfl, this.2]
    simp [cmdOf, hnc, hbody]
  · have := endTestcase_keys h hs1
    refine ⟨this.2.2, ?_⟩
    rw [show keys (s1.setTitle line) = keys s1 from rfl, this.1]
    simp [cmdOf, hnc, hnone]

theorem run_keys (expOk : List Char → Bool) (ind : List Char) (ls : List (List Char)) {s s' : St} {i : Nat}
    (h : Started s) (he : run expOk ind s i ls = .ok s') :
    Started s' ∧ keys s' = keys s ++ cmdLinesFrom ind i ls := by
  induction ls generalizing s i with
  | nil => simp only [run] at he; cases he; simp [cmdLinesFrom, h]
  | cons l ls ih =>
    simp only [run] at he
    split at he
    · cases he
    · next s1 hs1 =>
      have h1 := step_keys expOk ind h hs1
      have h2 := ih h1.1 he
      refine ⟨h2.1, ?_⟩
      rw [h2.2, h1.2]
      simp only [cmdLinesFrom]
      cases cmdOf ind l <;> simp

theorem finish_keys {s s' : St} {n : Nat} (h : Started s) (he : finish s n = .ok s') :
    s'.testcases.map keyOf = keys s := by
  rcases finish_ok he with ⟨hb, rfl⟩ | he
  · simp [keys, command_of_not_hasBody hb]
  · have := endTestcase_keys (s := s.setConfig TCConfig.defaultCram) h he
    rw [show keys s = keys (s.setConfig TCConfig.defaultCram) from rfl, ← this.1]
    simp [keys, this.2.1]

theorem parseLines_keys (expOk : List Char → Bool) (ind : List Char) (ls : List (List Char)) (ts : List Test)
    (h : parseLines expOk ind ls = .ok ts) : ts.map keyOf = cmdLinesFrom ind 0 ls := by
  obtain ⟨s, s', hs, hs', rfl⟩ := parseLines_ok h
  have h1 := run_keys expOk ind ls ⟨fun h => absurd rfl h, fun _ => rfl, rfl⟩ hs
  rw [finish_keys h1.1 hs', h1.2]
  rfl

end Scrut.Cram
