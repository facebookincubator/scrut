import ScrutModel.Model.Grammar
import ScrutModel.Lemmas.Basic
/-! Proofs about the expectation grammar model (C08). -/
namespace Scrut.Grammar

theorem stripPrefix_eq_some {a r r' : List Char} : stripPrefix a r = some r' ↔ r = a ++ r' := by
  induction a generalizing r with
  | nil => simp [stripPrefix, eq_comm]
  | cons x xs ih =>
    cases r with
    | nil => simp [stripPrefix]
    | cons c cs =>
      by_cases h : x = c
      · subst h; simp [stripPrefix, ih]
      · simp [stripPrefix, h]; intro h'; exact absurd h'.symm h

theorem tail?_eq_some {r : List Char} {q : Option Char} :
    tail? r = some q ↔ r = q.toList ++ [')'] ∧ (∀ c, q = some c → isQuantChar c = true) := by
  match r with
  | [] => cases q <;> simp [tail?]
  | [c] =>
    cases q with
    | none => simp [tail?]
    | some x => simp [tail?]
  | [x, c] =>
    cases q with
    | none => simp [tail?]
    | some y =>
      simp [tail?]
      constructor
      · rintro ⟨⟨h1, h2⟩, h3⟩; subst h1; subst h3; exact ⟨⟨rfl, rfl⟩, h2⟩
      · rintro ⟨⟨h1, h2⟩, h3⟩; subst h1; subst h2; exact ⟨⟨rfl, h3⟩, rfl⟩
  | a :: b :: c :: r => cases q <;> simp [tail?]

/-- the characters that can follow the kind name inside the parentheses -/
def special (c : Char) : Bool := c == ')' || isQuantChar c

theorem alts_plain : ∀ a ∈ alts, ∀ c ∈ a, special c = false ∧ c ≠ '(' ∧ c ≠ '\n' := by decide +kernel

theorem tail?_head_special {t : List Char} {q : Option Char} (h : tail? t = some q) :
    ∀ c ∈ t.head?, special c = true := by
  obtain ⟨rfl, hq⟩ := tail?_eq_some.mp h
  cases q with
  | none => simp [special]
  | some x => simp [special, hq x rfl]

/-- kind text and quantifier are determined by the text between the parentheses: the kind text is
    what stands in front of the first `)`, `*`, `+` or `?` -/
theorem alts_unique {a a' t t' : List Char} {q q' : Option Char} (ha : a ∈ alts) (ha' : a' ∈ alts)
    (ht : tail? t = some q) (ht' : tail? t' = some q') (h : a ++ t = a' ++ t') : a = a' ∧ t = t' := by
  have key : ∀ {a t : List Char} {q : Option Char}, a ∈ alts → tail? t = some q →
      (a ++ t).takeWhile (fun c => !special c) = a := fun {a t q} ha ht =>
    (span_eq (List.all_eq_true.mpr fun c hc => by simp [(alts_plain a ha c hc).1])
      (fun c hc => by simp [tail?_head_special ht c hc])).1
  have : a = a' := by rw [← key ha ht, h, key ha' ht']
  subst this
  exact ⟨rfl, List.append_cancel_left h⟩

theorem firstAlt_sound {as : List (List Char)} {r a : List Char} {q : Option Char}
    (h : firstAlt as r = some (a, q)) : a ∈ as ∧ ∃ t, r = a ++ t ∧ tail? t = some q := by
  induction as with
  | nil => simp [firstAlt] at h
  | cons x xs ih =>
    unfold firstAlt at h
    split at h
    · rename_i r' hs
      split at h
      · rename_i q' ht
        simp at h
        obtain ⟨rfl, rfl⟩ := h
        exact ⟨by simp, r', stripPrefix_eq_some.mp hs, ht⟩
      · obtain ⟨hm, ht⟩ := ih h
        exact ⟨by simp [hm], ht⟩
    · obtain ⟨hm, ht⟩ := ih h
      exact ⟨by simp [hm], ht⟩

theorem firstAlt_complete {as : List (List Char)} {a t : List Char} {q : Option Char}
    (hsub : ∀ x ∈ as, x ∈ alts) (ha : a ∈ as) (ht : tail? t = some q) :
    firstAlt as (a ++ t) = some (a, q) := by
  induction as with
  | nil => simp at ha
  | cons x xs ih =>
    unfold firstAlt
    split
    · rename_i r' hs
      split
      · rename_i q' ht'
        have := alts_unique (hsub a ha) (hsub x (by simp)) ht ht' (stripPrefix_eq_some.mp hs)
        obtain ⟨rfl, rfl⟩ := this
        rw [ht] at ht'; cases ht'; rfl
      · rename_i hn
        rcases List.mem_cons.mp ha with rfl | hm
        · have := stripPrefix_eq_some.mp hs
          have := List.append_cancel_left this
          subst this; rw [ht] at hn; cases hn
        · exact ih (fun y hy => hsub y (by simp [hy])) hm
    · rename_i hn
      rcases List.mem_cons.mp ha with rfl | hm
      · have : stripPrefix a (a ++ t) = some t := stripPrefix_eq_some.mpr rfl
        rw [this] at hn; cases hn
      · exact ih (fun y hy => hsub y (by simp [hy])) hm

theorem suffixAt_eq_some {W : Char → Bool} {s K : List Char} {Q : Option Char} :
    suffixAt W s = some (K, Q) ↔
      ∃ w, W w = true ∧ K ∈ alts ∧ (∀ c, Q = some c → isQuantChar c = true) ∧
        s = w :: '(' :: (K ++ (Q.toList ++ [')'])) := by
  constructor
  · intro h
    match s, h with
    | w :: c :: r, h =>
      simp only [suffixAt] at h
      split at h
      · rename_i hc
        obtain ⟨hw, rfl⟩ := hc
        obtain ⟨hm, t, rfl, ht⟩ := firstAlt_sound h
        obtain ⟨rfl, hq⟩ := tail?_eq_some.mp ht
        exact ⟨w, hw, hm, hq, rfl⟩
      · cases h
  · rintro ⟨w, hw, hK, hQ, rfl⟩
    simp only [suffixAt, hw, true_and, if_true]
    exact firstAlt_complete (fun _ h => h) hK (tail?_eq_some.mpr ⟨rfl, hQ⟩)

theorem body_no_paren {K : List Char} {Q : Option Char} (hK : K ∈ alts)
    (hQ : ∀ c, Q = some c → isQuantChar c = true) : '(' ∉ K ++ (Q.toList ++ [')']) := by
  intro h
  rcases List.mem_append.mp h with h | h
  · exact (alts_plain K hK _ h).2.1 rfl
  · cases Q with
    | none => simp at h
    | some c =>
      have hc : c = '(' := by simpa [eq_comm] using h
      exact absurd (hQ c rfl) (hc ▸ by decide)

/-- a text that is a suffix group has no proper extension to the left that is one (why laziness of
    `(.*?)` never matters) -/
theorem suffixAt_extend_none {W : Char → Bool} {s : List Char} {m : List Char × Option Char}
    (h : suffixAt W s = some m) {x : List Char} (hx : x ≠ []) : suffixAt W (x ++ s) = none := by
  cases hm : suffixAt W (x ++ s) with
  | none => rfl
  | some m2 =>
    exfalso
    obtain ⟨K, Q⟩ := m
    obtain ⟨K2, Q2⟩ := m2
    obtain ⟨w, _, _, _, rfl⟩ := suffixAt_eq_some.mp h
    obtain ⟨w2, _, hK2, hQ2, e⟩ := suffixAt_eq_some.mp hm
    have hb := body_no_paren hK2 hQ2
    match x, hx with
    | [a], _ =>
      simp at e
      obtain ⟨_, _, e⟩ := e
      rw [← e] at hb
      exact hb (by simp)
    | a :: b :: x', _ =>
      simp at e
      obtain ⟨_, _, e⟩ := e
      rw [← e] at hb
      exact hb (by simp)

theorem scan_sound {W : Char → Bool} {l p : List Char} {m : Option (List Char × Option Char)}
    (h : scan W l = some (p, m)) :
    '\n' ∉ p ∧ ∃ s, l = p ++ s ∧
      (∀ m', m = some m' → suffixAt W s = some m') ∧ (m = none → s = []) := by
  induction l generalizing p with
  | nil =>
    simp [scan] at h
    obtain ⟨rfl, rfl⟩ := h
    exact ⟨by simp, [], rfl, by simp, fun _ => rfl⟩
  | cons c cs ih =>
    unfold scan at h
    split at h
    · rename_i m' hs
      simp at h
      obtain ⟨rfl, rfl⟩ := h
      exact ⟨by simp, c :: cs, rfl, by simp [hs], by simp⟩
    · split at h
      · cases h
      · rename_i hc
        split at h
        · rename_i p' m' hsc
          simp at h
          obtain ⟨rfl, rfl⟩ := h
          obtain ⟨hn, s, hl, hm⟩ := ih hsc
          refine ⟨?_, s, by simp [hl], hm⟩
          intro hmem
          rcases List.mem_cons.mp hmem with e | e
          · exact hc e.symm
          · exact hn e
        · cases h

theorem scan_complete {W : Char → Bool} {p s : List Char} {m : List Char × Option Char}
    (hp : '\n' ∉ p) (hs : suffixAt W s = some m) : scan W (p ++ s) = some (p, some m) := by
  induction p with
  | nil =>
    cases s with
    | nil => simp [suffixAt] at hs
    | cons c cs => simp [scan, hs]
  | cons c cs ih =>
    have hnone : suffixAt W (c :: (cs ++ s)) = none := by
      have := suffixAt_extend_none hs (x := c :: cs) (by simp)
      simpa using this
    have hc : c ≠ '\n' := fun e => hp (by simp [e])
    have := ih (fun e => hp (by simp [e]))
    simp [scan, hnone, hc, this]

theorem scan_total {W : Char → Bool} {l : List Char} (h : '\n' ∉ l) : ∃ r, scan W l = some r := by
  induction l with
  | nil => exact ⟨_, rfl⟩
  | cons c cs ih =>
    obtain ⟨⟨p, m⟩, hr⟩ := ih (fun e => h (by simp [e]))
    have hc : c ≠ '\n' := fun e => h (by simp [e])
    unfold scan
    split
    · exact ⟨_, rfl⟩
    · simp [hc, hr]

theorem mem_alts {K : List Char} : K ∈ alts ↔ K = [] ∨ K ∈ kindNames := by
  simp [alts, or_comm]

theorem Modifier.kind_ok {W : Char → Bool} {l p K : List Char} {Q : Option Char}
    (h : Modifier W l p K Q) : K = [] ∨ K ∈ kindNames := by
  obtain ⟨_, _, hK, _⟩ := h
  exact hK

theorem modifier_iff {W : Char → Bool} {l p K : List Char} {Q : Option Char} (hl : '\n' ∉ l) :
    Modifier W l p K Q ↔ modifierOf W l = some (p, K, Q) := by
  constructor
  · intro h
    obtain ⟨w, hw, hK, hQ, hne, rfl⟩ := h
    have hp : '\n' ∉ p := fun e => hl (by simp [e])
    have hs : suffixAt W (w :: '(' :: (K ++ (Q.toList ++ [')']))) = some (K, Q) :=
      suffixAt_eq_some.mpr ⟨w, hw, mem_alts.mpr hK, hQ, rfl⟩
    simp [modifierOf, scan_complete hp hs, hne]
  · intro h
    unfold modifierOf at h
    split at h
    · rename_i p' k q hsc
      split at h
      · cases h
      · rename_i hne
        simp at h
        obtain ⟨rfl, rfl, rfl⟩ := h
        obtain ⟨_, s, rfl, hs, _⟩ := scan_sound hsc
        have hs := hs _ rfl
        obtain ⟨w, hw, hK, hQ, rfl⟩ := suffixAt_eq_some.mp hs
        exact ⟨w, hw, mem_alts.mp hK, hQ, hne, rfl⟩
    · cases h

theorem extract_eq {W : Char → Bool} {l : List Char} (hl : '\n' ∉ l) :
    extract W l = .ok (match modifierOf W l with
      | some (p, K, Q) => (p, orEqual K, Q.toList)
      | none => (l, equalName, [])) := by
  obtain ⟨⟨p, m⟩, hr⟩ := scan_total (W := W) hl
  match m, hr with
  | none, hr => simp [extract, captures, modifierOf, hr]
  | some (k, none), hr =>
    by_cases hk : k = []
    · simp [extract, captures, modifierOf, hr, hk]
    · simp [extract, captures, modifierOf, hr, hk, idx, orEqual, bind, Except.bind, pure, Except.pure]
  | some (k, some q), hr =>
    simp [extract, captures, modifierOf, hr, idx, orEqual, bind, Except.bind, pure, Except.pure]

theorem extract_of_modifier {W : Char → Bool} {l p K : List Char} {Q : Option Char} (hl : '\n' ∉ l)
    (h : Modifier W l p K Q) : extract W l = .ok (p, orEqual K, Q.toList) := by
  rw [extract_eq hl, (modifier_iff hl).mp h]

theorem extract_of_no_modifier {W : Char → Bool} {l : List Char} (hl : '\n' ∉ l)
    (h : ¬ ∃ p K Q, Modifier W l p K Q) : extract W l = .ok (l, equalName, []) := by
  rw [extract_eq hl]
  cases hm : modifierOf W l with
  | none => rfl
  | some r =>
    obtain ⟨p, K, Q⟩ := r
    exact absurd ⟨p, K, Q, (modifier_iff hl).mpr hm⟩ h

theorem lookup_names : ∀ K ∈ kindNames, (lookupKind K).isSome = true := by decide +kernel

theorem Kind.name_spec (k : Kind) :
    lookupKind k.name = some k ∧ k.name ∈ kindNames ∧ k.name ≠ [] ∧ '\n' ∉ k.name := by
  cases k <;> decide +kernel

theorem lookup_orEqual {K : List Char} (h : K = [] ∨ K ∈ kindNames) : ∃ kind, lookupKind (orEqual K) = some kind := by
  rcases h with rfl | h
  · exact ⟨.equal, by decide⟩
  · have hne : K ≠ [] := by intro e; subst e; revert h; decide
    have := lookup_names K h
    simp only [orEqual, hne, if_false]
    exact Option.isSome_iff_exists.mp this

theorem parse_of_extract {P : Params} {l e k q : List Char} {kind : Kind}
    (h : extract P.isWhite l = .ok (e, k, q)) (hk : lookupKind k = some kind) :
    parse P l = match makeRule P kind e with
      | none => .error .makeError
      | some b => .ok ⟨kind, b, q == ['*'] || q == ['?'], q == ['*'] || q == ['+']⟩ := by
  simp only [parse, h, hk]
  cases makeRule P kind e <;> rfl

theorem makeRule_none_kind {P : Params} {kind : Kind} {e : List Char} (h : makeRule P kind e = none) :
    kind = .escaped ∨ kind = .glob ∨ kind = .regex := by
  cases kind <;> simp_all [makeRule]

theorem parse_of_no_modifier {P : Params} {l : List Char} (hl : '\n' ∉ l)
    (h : ¬ ∃ p K Q, Modifier P.isWhite l p K Q) : parse P l = .ok ⟨.equal, utf8 l, false, false⟩ := by
  rw [parse_of_extract (extract_of_no_modifier hl h) (kind := .equal) (by decide)]
  simp [makeRule]

theorem parse_of_modifier {P : Params} {l p K : List Char} {Q : Option Char} {kind : Kind}
    (hl : '\n' ∉ l) (h : Modifier P.isWhite l p K Q) (hk : lookupKind (orEqual K) = some kind) :
    parse P l = match makeRule P kind p with
      | none => .error .makeError
      | some b => .ok ⟨kind, b, Q.toList == ['*'] || Q.toList == ['?'], Q.toList == ['*'] || Q.toList == ['+']⟩ :=
  parse_of_extract (extract_of_modifier hl h) hk

theorem quantOpt_quant (o m : Bool) : ∀ c, quantOpt o m = some c → isQuantChar c = true := by
  cases o <;> cases m <;> simp [quantOpt] <;> decide

theorem quantOpt_optional (o m : Bool) :
    ((quantOpt o m).toList == ['*'] || (quantOpt o m).toList == ['?']) = o := by
  cases o <;> cases m <;> decide

theorem quantOpt_multiline (o m : Bool) :
    ((quantOpt o m).toList == ['*'] || (quantOpt o m).toList == ['+']) = m := by
  cases o <;> cases m <;> decide

theorem quantStr_no_newline (o m : Bool) : '\n' ∉ quantStr o m := by
  cases o <;> cases m <;> decide

theorem render_kind_modifier {W : Char → Bool} (hw : W ' ' = true) (t : List Char) (k : Kind) (o m : Bool) :
    Modifier W (t ++ [' ', '('] ++ k.name ++ quantStr o m ++ [')']) t k.name (quantOpt o m) :=
  ⟨' ', hw, Or.inr k.name_spec.2.1, quantOpt_quant o m, fun h => k.name_spec.2.2.1 h.1, by simp [quantStr]⟩

theorem render_quant_modifier {W : Char → Bool} (hw : W ' ' = true) (t : List Char) (o m : Bool)
    (hq : quantOpt o m ≠ none) :
    Modifier W (t ++ [' ', '('] ++ quantStr o m ++ [')']) t [] (quantOpt o m) :=
  ⟨' ', hw, Or.inl rfl, quantOpt_quant o m, fun h => hq h.2, by simp [quantStr]⟩

theorem parse_render_kind {P : Params} (hw : P.isWhite ' ' = true) {t : List Char} (hnl : '\n' ∉ t)
    (k : Kind) (o m : Bool) :
    parse P (t ++ [' ', '('] ++ k.name ++ quantStr o m ++ [')']) =
      match makeRule P k t with
      | none => .error .makeError
      | some b => .ok ⟨k, b, o, m⟩ := by
  have hl : '\n' ∉ t ++ [' ', '('] ++ k.name ++ quantStr o m ++ [')'] := by
    simp [hnl, k.name_spec.2.2.2, quantStr_no_newline o m]
  have hk : lookupKind (orEqual k.name) = some k := by
    simp only [orEqual, k.name_spec.2.2.1, if_false]; exact k.name_spec.1
  rw [parse_of_modifier hl (render_kind_modifier hw t k o m) hk, quantOpt_optional, quantOpt_multiline]

theorem parse_render_quant {P : Params} (hw : P.isWhite ' ' = true) {t : List Char} (hnl : '\n' ∉ t)
    (o m : Bool) (hq : quantOpt o m ≠ none) :
    parse P (t ++ [' ', '('] ++ quantStr o m ++ [')']) = .ok ⟨.equal, utf8 t, o, m⟩ := by
  have hl : '\n' ∉ t ++ [' ', '('] ++ quantStr o m ++ [')'] := by
    simp [hnl, quantStr_no_newline o m]
  have hk : lookupKind (orEqual []) = some .equal := by decide +kernel
  rw [parse_of_modifier hl (render_quant_modifier hw t o m hq) hk, quantOpt_optional, quantOpt_multiline]
  simp [makeRule]

theorem quantStr_eq_nil {o m : Bool} : quantStr o m = [] ↔ quantOpt o m = none := by
  cases o <;> cases m <;> simp [quantStr, quantOpt]

theorem quantOpt_none {o m : Bool} (h : quantOpt o m = none) : o = false ∧ m = false := by
  cases o <;> cases m <;> simp_all [quantOpt]

theorem splitLast_none {a : List Char} (h : '(' ∉ a) : splitLast a = none := by
  induction a with
  | nil => rfl
  | cons c cs ih =>
    have hc : c ≠ '(' := fun e => h (by simp [e])
    simp [splitLast, ih (fun e => h (by simp [e])), hc]

theorem splitLast_append {b a : List Char} (h : '(' ∉ a) : splitLast (b ++ '(' :: a) = some (b, a) := by
  induction b with
  | nil => simp [splitLast, splitLast_none h]
  | cons c cs ih => simp [splitLast, ih]

theorem alts_lowerDash : ∀ K ∈ alts, K.reverse.all isLowerDash = true ∧
    (stripQuantRev K.reverse).all isLowerDash = true := by decide +kernel

theorem endsLike_of_modifier {W S : Char → Bool} (hsub : ∀ c, W c = true → S c = true)
    {t p K : List Char} {Q : Option Char} (h : Modifier W t p K Q) : endsLikeModifier S t = true := by
  obtain ⟨w, hw, hK, hQ, _, rfl⟩ := h
  have hK' := mem_alts.mpr hK
  have hb := body_no_paren hK' hQ
  have hsplit : splitLast (p ++ w :: '(' :: (K ++ (Q.toList ++ [')']))) =
      some (p ++ [w], K ++ (Q.toList ++ [')'])) := by
    have := splitLast_append (b := p ++ [w]) hb
    simpa using this
  have hl := alts_lowerDash K hK'
  unfold endsLikeModifier
  rw [hsplit]
  cases Q with
  | none => simp [hsub w hw]; simpa using hl.2
  | some q => simp [hsub w hw, stripQuantRev, hQ q rfl]; simpa using hl.1

theorem not_modifier_of_not_endsLike {W S : Char → Bool} (hsub : ∀ c, W c = true → S c = true)
    {t : List Char} (h : endsLikeModifier S t = false) : ¬ ∃ p K Q, Modifier W t p K Q := by
  rintro ⟨p, K, Q, hm⟩
  rw [endsLike_of_modifier hsub hm] at h
  cases h

theorem escapedMarker_no_newline : '\n' ∉ escapedMarker := by decide +kernel

/-- outside the one case that is written without a kind -- an `equal` expectation with printable
    content -- the canonical form is `sourceText`, a blank and the modifier of `sourceKind` -/
theorem toExpressionString_eq (P : Params) (e : Expectation)
    (h : ¬ (e.kind = .equal ∧ P.hasUnprintable e.expr = false)) :
    toExpressionString P e =
      sourceText P e ++ [' ', '('] ++ (sourceKind P e).name ++ quantStr e.optional e.multiline ++ [')'] := by
  obtain ⟨k, x, o, m⟩ := e
  cases k <;> cases hu : P.hasUnprintable x <;>
    simp [toExpressionString, sourceText, sourceKind, escapedMarker, hu] at h ⊢

theorem parse_render {P : Params} (hw : P.isWhite ' ' = true)
    (hsub : ∀ c, P.isWhite c = true → P.isSpaceStd c = true) {e : Expectation}
    (hnl : '\n' ∉ sourceText P e) :
    parse P (toExpressionString P e) =
      match makeRule P (sourceKind P e) (sourceText P e) with
      | none => .error .makeError
      | some b => .ok ⟨sourceKind P e, b, e.optional, e.multiline⟩ := by
  by_cases h : e.kind = .equal ∧ P.hasUnprintable e.expr = false
  · -- printable `equal`: no kind is written unless the text would be misread without one
    obtain ⟨k, x, o, m⟩ := e
    obtain ⟨rfl, hu⟩ : k = .equal ∧ P.hasUnprintable x = false := h
    have hst : sourceText P ⟨.equal, x, o, m⟩ = P.escPrintable x := by simp [sourceText, hu]
    have hsk : sourceKind P ⟨.equal, x, o, m⟩ = .equal := by simp [sourceKind, hu]
    rw [hst] at hnl
    rw [hst, hsk]
    simp only [toExpressionString, hu, Bool.false_eq_true, if_false, makeRule]
    by_cases hq : quantStr o m = []
    · obtain ⟨rfl, rfl⟩ := quantOpt_none (quantStr_eq_nil.mp hq)
      by_cases he : endsLikeModifier P.isSpaceStd (P.escPrintable x) = true
      · simp only [hq, he, and_self, if_true]
        have := parse_render_kind hw hnl .equal false false
        simpa [quantStr, quantOpt, makeRule] using this
      · simp only [hq, he, if_true]
        exact parse_of_no_modifier hnl (not_modifier_of_not_endsLike hsub (by simpa using he))
    · simp only [hq, false_and, if_false]
      exact parse_render_quant hw hnl o m (fun h => hq (quantStr_eq_nil.mpr h))
  · rw [toExpressionString_eq P e h]
    exact parse_render_kind hw hnl _ _ _

theorem roundtrip_iff {P : Params} (hw : P.isWhite ' ' = true)
    (hsub : ∀ c, P.isWhite c = true → P.isSpaceStd c = true) {e : Expectation}
    (hnl : '\n' ∉ sourceText P e) :
    parse P (toExpressionString P e) = .ok (reread P e) ↔
      makeRule P (sourceKind P e) (sourceText P e) = some e.expr := by
  rw [parse_render hw hsub hnl]
  cases h : makeRule P (sourceKind P e) (sourceText P e) with
  | none => simp
  | some b =>
    cases e
    simp [reread]

theorem roundtrip {P : Params} (hw : P.isWhite ' ' = true)
    (hsub : ∀ c, P.isWhite c = true → P.isSpaceStd c = true) {e : Expectation}
    (hnl : '\n' ∉ sourceText P e)
    (hmk : makeRule P (sourceKind P e) (sourceText P e) = some e.expr) :
    parse P (toExpressionString P e) = .ok (reread P e) :=
  (roundtrip_iff hw hsub hnl).mpr hmk

theorem reread_eq {P : Params} {e : Expectation} (h : e.kind = .equal → P.hasUnprintable e.expr = false) :
    reread P e = e := by
  cases e with
  | mk k x o m =>
    simp only [reread, sourceKind]
    by_cases hk : k = .equal
    · have := h hk; simp_all
    · simp [hk]

theorem stripSuffix_eq_some {suf t body : List Char} : stripSuffix suf t = some body ↔ t = body ++ suf := by
  unfold stripSuffix
  constructor
  · intro h
    obtain ⟨r, hr, rfl⟩ := Option.map_eq_some_iff.mp h
    have := stripPrefix_eq_some.mp hr
    have h2 := congrArg List.reverse this
    simpa using h2
  · rintro rfl
    have : stripPrefix suf.reverse (suf.reverse ++ body.reverse) = some body.reverse :=
      stripPrefix_eq_some.mpr rfl
    simp [this]

theorem stripSuffix_guard (t : List Char) : stripSuffix noEolSuffix (guardTailingNoEol t) = none := by
  unfold guardTailingNoEol
  split
  · -- read from the end, `\x20(no-eol)` and ` (no-eol)` differ at the ninth character: `0` against the blank
    simp [stripSuffix, noEolSuffix, stripPrefix]
  · assumption

theorem stripNoEol_guard (t : List Char) : stripNoEol (guardTailingNoEol t) = guardTailingNoEol t := by
  simp [stripNoEol, stripSuffix_guard]

theorem makeRule_escaped_guard (P : Params) (t : List Char) :
    makeRule P .escaped (guardTailingNoEol t) = P.make .escaped (guardTailingNoEol t) := by
  simp [makeRule, stripNoEol_guard]

theorem guard_no_newline {t : List Char} (h : '\n' ∉ t) : '\n' ∉ guardTailingNoEol t := by
  unfold guardTailingNoEol
  split
  · rename_i body hb
    have := stripSuffix_eq_some.mp hb
    subst this
    intro hm
    have hb' : '\n' ∉ body := fun e => h (List.mem_append_left _ e)
    rcases List.mem_append.mp hm with hm | hm
    · exact hb' hm
    · revert hm; decide
  · exact h

theorem sourceText_guarded {P : Params} {e : Expectation} (h : sourceKind P e = .escaped) :
    ∃ t, sourceText P e = guardTailingNoEol t := by
  obtain ⟨k, x, o, m⟩ := e
  cases k <;> cases hu : P.hasUnprintable x <;> simp [sourceKind, hu] at h <;>
    exact ⟨_, by simp only [sourceText, hu]; rfl⟩

/-- everything written as `escaped` reads back exactly when resolving the escape sequences of
    the written text (`apply_escaped_filter_bytes`, no strip involved) gives the bytes back -/
theorem roundtrip_escaped_iff {P : Params} (hw : P.isWhite ' ' = true)
    (hsub : ∀ c, P.isWhite c = true → P.isSpaceStd c = true) {e : Expectation}
    (hnl : '\n' ∉ sourceText P e) (hk : sourceKind P e = .escaped) :
    parse P (toExpressionString P e) = .ok (reread P e) ↔
      P.make .escaped (sourceText P e) = some e.expr := by
  rw [roundtrip_iff hw hsub hnl, hk]
  obtain ⟨t, ht⟩ := sourceText_guarded hk
  rw [ht, makeRule_escaped_guard]

theorem roundtrip_noEol_iff {P : Params} (hw : P.isWhite ' ' = true)
    (hsub : ∀ c, P.isWhite c = true → P.isSpaceStd c = true) {b : List UInt8} {o m : Bool}
    (hnl : '\n' ∉ P.escPrintable b) :
    parse P (toExpressionString P ⟨.noEol, b, o, m⟩) = .ok ⟨.noEol, b, o, m⟩ ↔
      utf8 (P.escPrintable b) = b := by
  have h := roundtrip_iff hw hsub (e := ⟨.noEol, b, o, m⟩) (by simpa [sourceText] using hnl)
  rw [reread_eq (by intro hk; cases hk)] at h
  simpa [sourceKind, sourceText, makeRule] using h

end Scrut.Grammar
