import ScrutModel.Model.ConfigRender
import ScrutModel.Lemmas.Duration
import ScrutModel.Lemmas.Basic
/-! The double-quoted scalar scanner reads back what `yaml_quoted` writes. -/
namespace Scrut.Yaml
open Scrut.Dur

theorem hexv_hexDigit : ∀ k, k < 16 → hexv (hexDigit k) = some k := by decide +kernel

theorem hexNum_uEscape (n : Nat) (h : n < 65536) :
    hexNum [hexDigit (n / 4096), hexDigit (n / 256 % 16), hexDigit (n / 16 % 16), hexDigit (n % 16)] = some n := by
  have h1 := hexv_hexDigit (n / 4096) (Nat.div_lt_of_lt_mul h)
  have h2 := hexv_hexDigit (n / 256 % 16) (Nat.mod_lt _ (by decide))
  have h3 := hexv_hexDigit (n / 16 % 16) (Nat.mod_lt _ (by decide))
  have h4 := hexv_hexDigit (n % 16) (Nat.mod_lt _ (by decide))
  simp only [hexNum, List.foldlM_cons, List.foldlM_nil, h1, h2, h3, h4, Option.map_some, Option.bind_eq_bind,
    Option.bind_some, pure, Nat.zero_mul, Nat.zero_add, Option.some.injEq]
  omega

theorem scalarValue_toNat (c : Char) : scalarValue c.toNat = some c := by
  have hv : c.toNat < 55296 ∨ (57343 < c.toNat ∧ c.toNat < 1114112) := c.valid
  have : ¬ ((0xD800 ≤ c.toNat ∧ c.toNat ≤ 0xDFFF) ∨ c.toNat > 0x10FFFF) := by omega
  simp only [scalarValue, this, if_false, Char.ofNat_toNat]

/-- serde_json's `\u00XX` for a control character is the general four-digit form -/
theorem uEscape_low (n : Nat) (h : n < 32) :
    ['\\', 'u', '0', '0', hexDigit (n / 16), hexDigit (n % 16)] = uEscape n := by
  have a : n / 4096 = 0 := Nat.div_eq_of_lt (Nat.lt_trans h (by decide))
  have b : n / 256 = 0 := Nat.div_eq_of_lt (Nat.lt_trans h (by decide))
  have c : n / 16 % 16 = n / 16 := Nat.mod_eq_of_lt (Nat.div_lt_of_lt_mul (Nat.lt_trans h (by decide)))
  have z : hexDigit 0 = '0' := by decide +kernel
  simp only [uEscape, a, b, c, Nat.zero_mod, z]

/-- the three forms of an escaped character: a single-character escape that the scanner maps back
to `c`, the four hex digits of `c` (only below U+10000), or `c` itself -/
theorem jsonEscape_cases {P : List Char → Prop} (c : Char)
    (simple : ∀ e ∈ ['"', '\\', 'b', 'f', 'n', 'r', 't'], simpleEscape e = some c → P ['\\', e])
    (esc : c.toNat < 65536 → P (uEscape c.toNat))
    (raw : c ≠ '"' → c ≠ '\\' → 32 ≤ c.toNat → needsYamlEscape c = false → P [c]) : P (jsonEscape c) := by
  have ofn : ∀ n, c.toNat = n → some (Char.ofNat n) = some c := fun n h => by rw [← h, Char.ofNat_toNat]
  unfold jsonEscape
  refine ite_ind (fun h => simple '"' (by decide +kernel) (by rw [h]; decide +kernel)) fun h1 => ?_
  refine ite_ind (fun h => simple '\\' (by decide +kernel) (by rw [h]; decide +kernel)) fun h2 => ?_
  refine ite_ind (fun h => simple 'b' (by decide +kernel) (ofn 8 h)) fun _ => ?_
  refine ite_ind (fun h => simple 'f' (by decide +kernel) (ofn 12 h)) fun _ => ?_
  refine ite_ind (fun h => simple 'n' (by decide +kernel) (ofn 10 h)) fun _ => ?_
  refine ite_ind (fun h => simple 'r' (by decide +kernel) (ofn 13 h)) fun _ => ?_
  refine ite_ind (fun h => simple 't' (by decide +kernel) (ofn 9 h)) fun _ => ?_
  refine ite_ind (fun h => uEscape_low _ h ▸ esc (by omega)) fun h8 => ?_
  refine ite_ind (fun h => esc ?_) fun h9 => raw h1 h2 (by omega) (by simpa using h9)
  simp only [needsYamlEscape, Bool.or_eq_true, Bool.and_eq_true, decide_eq_true_eq] at h
  omega

theorem scanQuoted_quote (tail acc : List Char) : scanQuoted ('"' :: tail) acc = some (acc.reverse, tail) := by
  rw [scanQuoted.eq_def]; simp only [if_true]

theorem scanQuoted_raw (c : Char) (tail acc : List Char) (h1 : c ≠ '"') (h2 : c ≠ '\\') :
    scanQuoted (c :: tail) acc = scanQuoted tail (c :: acc) := by
  rw [scanQuoted.eq_def]; simp only [h1, h2, if_false]

theorem scanQuoted_simple (e c : Char) (tail acc : List Char) (h : simpleEscape e = some c) :
    scanQuoted ('\\' :: e :: tail) acc = scanQuoted tail (c :: acc) := by
  have hx : e ≠ 'x' ∧ e ≠ 'u' ∧ e ≠ 'U' := by
    refine ⟨?_, ?_, ?_⟩ <;> (intro he; rw [he] at h; cases h)
  rw [scanQuoted.eq_def]
  simp [hx, h]

theorem scanQuoted_u (a b c d ch : Char) (tail acc : List Char)
    (h : (hexNum [a, b, c, d]).bind scalarValue = some ch) :
    scanQuoted ('\\' :: 'u' :: a :: b :: c :: d :: tail) acc = scanQuoted tail (ch :: acc) := by
  rw [scanQuoted.eq_def]
  simp [h]

theorem scan_escape (c : Char) (tail acc : List Char) :
    scanQuoted (jsonEscape c ++ tail) acc = scanQuoted tail (c :: acc) := by
  refine jsonEscape_cases (P := fun l => scanQuoted (l ++ tail) acc = scanQuoted tail (c :: acc)) c ?_ ?_ ?_
  · intro e _ he
    exact scanQuoted_simple e c tail acc he
  · intro h
    exact scanQuoted_u _ _ _ _ c tail acc (by rw [hexNum_uEscape _ h]; exact scalarValue_toNat c)
  · intro h1 h2 _ _
    exact scanQuoted_raw c tail acc h1 h2

theorem scan_body (s : List Char) : ∀ (tail acc : List Char),
    scanQuoted (jsonBody s ++ ('"' :: tail)) acc = some (acc.reverse ++ s, tail) := by
  induction s with
  | nil => intro tail acc; rw [jsonBody, List.nil_append, scanQuoted_quote, List.append_nil]
  | cons c s ih =>
    intro tail acc
    rw [jsonBody, List.append_assoc, scan_escape, ih, List.reverse_cons, List.append_assoc, List.singleton_append]

theorem scan_jsonQuote (s tail : List Char) :
    scanScalar (jsonQuote s ++ tail) = some (.quoted s, tail) := by
  simp [jsonQuote, scanScalar, scan_body]

theorem quote_roundtrip (s : List Char) : unquote (jsonQuote s) = some s := by
  have := scan_body s [] []
  simp only [List.reverse_nil, List.nil_append] at this
  simp [unquote, jsonQuote, this]

end Scrut.Yaml
