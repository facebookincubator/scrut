import ScrutModel.Model.Namer
namespace Scrut.Namer

theorem search_free {names : List Name} {ex : Name → Bool} {name : Name} :
    ∀ {fuel c n}, search names ex name fuel c = some n → taken names ex n = false := by
  intro fuel
  induction fuel with
  | zero => intro c n h; simp [search] at h
  | succ f ih =>
    intro c n h
    simp only [search] at h
    split at h
    · exact ih h
    · rename_i hfree
      cases h
      simpa using hfree

theorem nextName_free {names : List Name} {ex : Name → Bool} {fuel : Nat} {name n : Name}
    {names' : List Name} (h : nextName names ex fuel name = some (n, names')) :
    taken names ex n = false ∧ names' = n :: names := by
  unfold nextName at h
  split at h
  · rename_i hfree
    cases h
    exact ⟨by simpa using hfree, rfl⟩
  · split at h
    · rename_i m hs
      cases h
      exact ⟨search_free hs, rfl⟩
    · cases h

theorem taken_false {names : List Name} {ex : Name → Bool} {n : Name} (h : taken names ex n = false) :
    n ∉ names ∧ ex n = false := by
  simp [taken] at h
  exact ⟨by simpa using h.1, h.2⟩

theorem nextNames_spec (ex : Name → Bool) (fuel : Nat) :
    ∀ (reqs names out : List Name), nextNames ex fuel names reqs = some out →
      (∀ n ∈ out, n ∉ names ∧ ex n = false) ∧ out.Pairwise (· ≠ ·) ∧ out.length = reqs.length := by
  intro reqs
  induction reqs with
  | nil => intro names out h; simp [nextNames] at h; subst h; simp
  | cons r rs ih =>
    intro names out h
    simp only [nextNames] at h
    split at h
    · cases h
    · rename_i n names' hn
      obtain ⟨hfree, rfl⟩ := nextName_free hn
      obtain ⟨hnot, hex⟩ := taken_false hfree
      cases hrest : nextNames ex fuel (n :: names) rs with
      | none => simp [hrest] at h
      | some tl =>
        simp [hrest] at h
        subst h
        obtain ⟨h1, h2, h3⟩ := ih (n :: names) tl hrest
        refine ⟨?_, ?_, by simp [h3]⟩
        · intro x hx
          cases hx with
          | head => exact ⟨hnot, hex⟩
          | tail _ hx' =>
            have := h1 x hx'
            exact ⟨fun hmem => this.1 (List.mem_cons_of_mem _ hmem), this.2⟩
        · refine List.pairwise_cons.2 ⟨?_, h2⟩
          intro x hx heq
          have := (h1 x hx).1
          exact this (by rw [← heq]; exact List.mem_cons_self)

theorem withCounter_inj {name : Name} {a b : Nat} (h : withCounter name a = withCounter name b) : a = b := by
  unfold withCounter at h
  have h1 : (toString a).toList = (toString b).toList := by
    have := List.append_cancel_left h
    exact this
  rw [Nat.toString_eq_ofList_toDigits, Nat.toString_eq_ofList_toDigits] at h1
  have h2 : Nat.toDigits 10 a = Nat.toDigits 10 b := by simpa using h1
  have := congrArg (fun l => Nat.ofDigitChars 10 l 0) h2
  simpa [Nat.ofDigitChars_ten_toDigits] using this

/-- the counters from `c` on whose names are taken all have their names in `T`: fuel `|T| + 1`
suffices, since a taken candidate can be struck from `T` (later candidates are different strings) -/
theorem search_terminates {names : List Name} {ex : Name → Bool} {name : Name} :
    ∀ (fuel : Nat) (T : List Name) (c : Nat), T.length < fuel →
      (∀ k, c ≤ k → taken names ex (withCounter name k) = true → withCounter name k ∈ T) →
      ∃ n, search names ex name fuel c = some n := by
  intro fuel
  induction fuel with
  | zero => intro T c h; omega
  | succ f ih =>
    intro T c h hT
    simp only [search]
    split
    · rename_i ht
      have hmem := hT c (Nat.le_refl _) ht
      have hpos : 0 < T.length := List.length_pos_of_mem hmem
      refine ih (T.erase (withCounter name c)) (c + 1) (by rw [List.length_erase_of_mem hmem]; omega) ?_
      intro k hk hk'
      have hne : withCounter name k ≠ withCounter name c := fun heq => by have := withCounter_inj heq; omega
      exact (List.mem_erase_of_ne hne).2 (hT k (by omega) hk')
    · exact ⟨_, rfl⟩

theorem nextName_terminates (names ex : List Name) (name : Name) :
    ∃ r, nextName names (fun x => ex.contains x) (names.length + ex.length + 1) name = some r := by
  unfold nextName
  split
  · exact ⟨_, rfl⟩
  · obtain ⟨n, hn⟩ := search_terminates (names := names) (ex := fun x => ex.contains x) (name := name)
      (names.length + ex.length + 1) (names ++ ex) 1 (by simp)
      (fun k _ hk => by simpa [taken, List.mem_append] using hk)
    rw [hn]
    exact ⟨_, rfl⟩

end Scrut.Namer
