import ScrutModel.Model.Template
namespace Scrut.Template

variable {α : Type} [DecidableEq α]

theorem stripPrefix?_eq_some_iff (p s r : List α) : stripPrefix? p s = some r ↔ s = p ++ r := by
  induction p generalizing s with
  | nil => simp [stripPrefix?, eq_comm]
  | cons x xs ih =>
    cases s with
    | nil => simp [stripPrefix?]
    | cons c cs =>
      by_cases h : x = c
      · subst h; simp [stripPrefix?, ih]
      · simp [stripPrefix?, h]
        intro h'; exact absurd h'.symm h

theorem stripPrefix?_append (p r : List α) : stripPrefix? p (p ++ r) = some r :=
  (stripPrefix?_eq_some_iff p (p ++ r) r).2 rfl

theorem stripPrefix?_eq_none_iff (p s : List α) : stripPrefix? p s = none ↔ ¬ p <+: s := by
  constructor
  · intro h ⟨r, hr⟩
    rw [← hr, stripPrefix?_append] at h
    cases h
  · intro h
    cases hs : stripPrefix? p s with
    | none => rfl
    | some r => exact absurd ⟨r, ((stripPrefix?_eq_some_iff p s r).1 hs).symm⟩ h

theorem splitFirst_sound (pat : List α) : ∀ (s a b : List α), splitFirst pat s = some (a, b) → s = a ++ pat ++ b := by
  intro s
  induction s with
  | nil =>
    intro a b h
    by_cases hp : pat = []
    · simp [splitFirst, hp] at h; simp [h, hp]
    · simp [splitFirst, hp] at h
  | cons c cs ih =>
    intro a b h
    unfold splitFirst at h
    cases hs : stripPrefix? pat (c :: cs) with
    | some rest =>
      simp [hs] at h
      obtain ⟨rfl, rfl⟩ := h
      simpa using (stripPrefix?_eq_some_iff pat (c :: cs) rest).1 hs
    | none =>
      simp [hs] at h
      obtain ⟨a', h', rfl⟩ := h
      have := ih a' b h'
      simp [this]

theorem splitFirst_none_iff (pat s : List α) : splitFirst pat s = none ↔ ¬ pat <:+: s := by
  induction s with
  | nil =>
    by_cases hp : pat = []
    · simp [splitFirst, hp]
    · simp [splitFirst, hp]
  | cons c cs ih =>
    unfold splitFirst
    cases hs : stripPrefix? pat (c :: cs) with
    | some rest =>
      simp
      have := (stripPrefix?_eq_some_iff pat (c :: cs) rest).1 hs
      exact ⟨[], rest, by simp [this]⟩
    | none =>
      have hnp := (stripPrefix?_eq_none_iff pat (c :: cs)).1 hs
      simp only [Option.map_eq_none_iff, ih]
      constructor
      · intro h hin
        rcases List.infix_cons_iff.1 hin with h1 | h1
        · exact hnp h1
        · exact h h1
      · intro h hin
        exact h (List.infix_cons_iff.2 (Or.inr hin))

/-- the split is at `pre` when `pat` matches at no earlier start: `hnone` says so for every start inside
`pre`, given by the non-empty rest `t` of `pre` from there -/
theorem splitFirst_append_of_none (pat pre post : List α) (hpat : pat ≠ [])
    (hnone : ∀ t, t ≠ [] → t <:+ pre → stripPrefix? pat (t ++ pat ++ post) = none) :
    splitFirst pat (pre ++ pat ++ post) = some (pre, post) := by
  induction pre with
  | nil =>
    cases hp : pat with
    | nil => exact absurd hp hpat
    | cons x xs =>
      have := stripPrefix?_append (x :: xs) post
      simp only [List.nil_append, List.cons_append] at this ⊢
      unfold splitFirst
      simp [this]
  | cons c cs ih =>
    have h1 := hnone (c :: cs) (by simp) (List.suffix_refl _)
    have ih' := ih (fun t ht hsuf => hnone t ht (List.IsSuffix.trans hsuf (List.suffix_cons c cs)))
    simp only [List.cons_append] at h1 ⊢
    unfold splitFirst
    simp only [h1]
    simp only [List.append_assoc] at ih' ⊢
    simp [ih']

/-- every round consumes the pattern, which is not empty: any two amounts of fuel that cover the
subject give the same result -/
theorem replaceAllF_fuel_irrel (pat rep : List α) (hpat : pat ≠ []) :
    ∀ (n m : Nat) (s : List α), s.length ≤ n → s.length ≤ m → replaceAllF pat rep n s = replaceAllF pat rep m s := by
  have hnil : ∀ k, replaceAllF pat rep k [] = [] := by
    intro k; cases k <;> simp [replaceAllF, splitFirst, hpat]
  intro n
  induction n with
  | zero =>
    intro m s hn _
    rw [List.length_eq_zero_iff.1 (Nat.le_zero.1 hn), hnil, hnil]
  | succ n ih =>
    intro m s hn hm
    cases m with
    | zero => rw [List.length_eq_zero_iff.1 (Nat.le_zero.1 hm), hnil, hnil]
    | succ m =>
      simp only [replaceAllF]
      cases hsp : splitFirst pat s with
      | none => rfl
      | some ab =>
        obtain ⟨a, b⟩ := ab
        have hl := congrArg List.length (splitFirst_sound pat s a b hsp)
        simp only [List.length_append] at hl
        have hpl : 0 < pat.length := List.length_pos_iff.2 hpat
        simp only
        rw [ih m b (by omega) (by omega)]

theorem replaceAllF_fuel (pat rep : List α) (hpat : pat ≠ []) :
    ∀ (n : Nat) (s : List α), s.length ≤ n → replaceAllF pat rep n s = replaceAllF pat rep s.length s :=
  fun n s hn => replaceAllF_fuel_irrel pat rep hpat n s.length s hn (Nat.le_refl _)

theorem replaceAll_of_not_occurs (pat rep s : List Char) (h : splitFirst pat s = none) :
    replaceAll pat rep s = s := by
  unfold replaceAll
  by_cases hp : pat = []
  · subst hp
    cases s <;> simp [splitFirst, stripPrefix?] at h
  · simp only [hp, if_false]
    cases hs : s with
    | nil => rfl
    | cons c cs =>
      rw [hs] at h
      simp [replaceAllF, h]

theorem replaceAll_once (pat rep s a b : List Char) (hp : pat ≠ [])
    (h1 : splitFirst pat s = some (a, b)) (h2 : splitFirst pat b = none) :
    replaceAll pat rep s = a ++ rep ++ b := by
  unfold replaceAll
  simp only [hp, if_false]
  cases hs : s with
  | nil =>
    rw [hs] at h1
    simp [splitFirst, hp] at h1
  | cons c cs =>
    rw [hs] at h1
    simp only [List.length_cons, replaceAllF, h1]
    cases hcs : cs.length with
    | zero => simp [replaceAllF]
    | succ k => simp [replaceAllF, h2]

theorem exprOnce_iff (t : List Char) :
    exprOnce t = true ↔ ∃ pre post, splitFirst PH_EXPR t = some (pre, post) ∧ splitFirst PH_EXPR post = none := by
  unfold exprOnce
  cases h : splitFirst PH_EXPR t with
  | none => simp
  | some ab =>
    obtain ⟨a, b⟩ := ab
    simp only [Option.isNone_iff_eq_none, Option.some.injEq, Prod.mk.injEq]
    constructor
    · intro hb; exact ⟨a, b, ⟨rfl, rfl⟩, hb⟩
    · rintro ⟨_, _, ⟨rfl, rfl⟩, hb⟩; exact hb

end Scrut.Template
