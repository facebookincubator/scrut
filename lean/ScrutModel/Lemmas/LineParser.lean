import ScrutModel.Model.LineParser
/-!
# What `end_testcase` and `add_testcase_body` do

Both parsers drive the `LineParser` through these two operations: what a successful call has done, by
the kind of line (`endTestcase_ok`, `addBody_ok`), and what a call computes for a line of a given form.

`NoExitForm`: a line of the form `^\[[0-9]+\]$` never becomes an expectation (scrut's fix eaf7201,
"exit code out of range"; without it `[2147483648]` was read as the expectation `[2147483648]` of kind equal).
-/
namespace Scrut.LineParser
variable {κ : Type}

theorem stripPrefix_append (p x : List Char) : stripPrefix p (p ++ x) = some x := by
  induction p with
  | nil => cases x <;> rfl
  | cons a p ih => simp [stripPrefix, ih]

theorem stripPrefix_eq_some {p l r : List Char} (h : stripPrefix p l = some r) : l = p ++ r := by
  induction p generalizing l with
  | nil => cases l <;> simp_all [stripPrefix]
  | cons a p ih =>
    cases l with
    | nil => simp [stripPrefix] at h
    | cons b l =>
      simp only [stripPrefix] at h
      split at h
      · next hab => subst hab; simp [ih h]
      · simp at h

def State.pending (s : State κ) (i : Nat) : TestCase κ :=
  { title := s.title.getD [], command := s.command, exitCode := s.exitCode, expectations := s.expectations,
    lineNumber := s.outputStartIndex.getD i + 1, config := s.config }

theorem endTestcase_idle {s : State κ} (i : Nat) (hc : s.command = []) (hx : s.expectations = [])
    (he : s.exitCode = none) : s.endTestcase i = .ok s := by
  simp [State.endTestcase, hc, hx, he]

theorem endTestcase_push {s : State κ} (i : Nat) (hc : s.command ≠ []) :
    s.endTestcase i = .ok ({ s with testcases := s.testcases ++ [s.pending i] }).flush := by
  have : s.command.isEmpty = false := by simpa using hc
  simp [State.endTestcase, this, State.pending]

theorem endTestcase_ok {s s' : State κ} {i : Nat} (h : s.endTestcase i = .ok s') :
    (s.command = [] ∧ s' = s) ∨
    (s.command ≠ [] ∧ s' = ({ s with testcases := s.testcases ++ [s.pending i] }).flush) := by
  by_cases hc : s.command = []
  · refine .inl ⟨hc, ?_⟩
    simp only [State.endTestcase, hc, List.isEmpty_nil, if_true] at h
    split at h
    · cases h
    · split at h <;> cases h
      rfl
  · rw [endTestcase_push i hc] at h
    cases h
    exact .inr ⟨hc, rfl⟩

theorem endTestcase_command {s s' : State κ} {i : Nat} (h : s.endTestcase i = .ok s') : s'.command = [] := by
  rcases endTestcase_ok h with ⟨hc, rfl⟩ | ⟨_, rfl⟩
  · exact hc
  · rfl

theorem command_of_not_hasBody {s : State κ} (h : s.hasBody = false) : s.command = [] := by
  simp only [State.hasBody, Bool.or_eq_false_iff, Bool.not_eq_false'] at h
  simpa using h.1

theorem addBody_start_idle (expOk : List Char → Bool) {s : State κ} (l : List Char) (i : Nat)
    (hc : s.command = []) :
    s.addBody expOk ('$' :: ' ' :: l) i =
      .ok ({ s with inCommand := true, outputStartIndex := s.outputStartIndex.or (some i), command := [l] },
        .commandStart) := by
  cases ho : s.outputStartIndex <;> simp [State.addBody, stripPrefix, hc, ho]

theorem addBody_start_open (expOk : List Char → Bool) {s : State κ} (l : List Char) (i : Nat)
    (ha : s.allowMultipleCommands = true) (hc : s.command ≠ []) :
    s.addBody expOk ('$' :: ' ' :: l) i =
      .ok ({ ({ s with inCommand := true, testcases := s.testcases ++ [s.pending i] }).flush with
              outputStartIndex := some i, command := [l] }, .commandStart) := by
  have he : s.command.isEmpty = false := by simpa using hc
  have hA : (if (s.allowMultipleCommands || s.command.isEmpty) = true then
      stripPrefix ['$', ' '] ('$' :: ' ' :: l) else none) = some l := by simp [ha, stripPrefix]
  unfold State.addBody
  rw [hA]
  simp only [he, Bool.not_false, if_true, endTestcase_push (s := { s with inCommand := true }) i hc]
  rfl

theorem addBody_cont (expOk : List Char → Bool) {s : State κ} (l : List Char) (i : Nat)
    (hin : s.inCommand = true) (hc : s.command ≠ []) :
    s.addBody expOk ('>' :: ' ' :: l) i = .ok ({ s with command := s.command ++ [l] }, .commandContinue) := by
  have he : s.command.isEmpty = false := by simpa using hc
  simp [State.addBody, State.addBodyRest, stripPrefix, hin, he]

/-! ### decimal digits: what `format!("{}", n)` writes is what `parse::<i32>()` reads -/

theorem digitsVal_toDigits (n : Nat) : digitsVal (Nat.toDigits 10 n) = n := by
  have h : ∀ ds, digitsVal ds = Nat.ofDigitChars 10 ds 0 := by
    intro ds
    unfold digitsVal Nat.ofDigitChars
    congr 1; funext acc c; rw [Nat.mul_comm]
  rw [h, Nat.ofDigitChars_ten_toDigits]

theorem toDigits_allDigit (n : Nat) : (Nat.toDigits 10 n).all isAsciiDigit = true := by
  rw [List.all_eq_true]
  intro c hc
  have h := Nat.isDigit_of_mem_toDigits (by decide) (by decide) hc
  simp only [Char.isDigit, Bool.and_eq_true, decide_eq_true_eq, ge_iff_le, UInt32.le_iff_toNat_le] at h
  simp only [isAsciiDigit, Bool.and_eq_true, decide_eq_true_eq]
  exact h

theorem toDigits_isEmpty (n : Nat) : (Nat.toDigits 10 n).isEmpty = false := by
  cases hd : Nat.toDigits 10 n with
  | nil => exact absurd hd Nat.toDigits_ne_nil
  | cons _ _ => rfl

theorem extractExitCode_toDigits (n : Nat) (h : n ≤ i32Max) :
    extractExitCode (['['] ++ Nat.toDigits 10 n ++ [']']) = some n := by
  simp [extractExitCode, toDigits_isEmpty, toDigits_allDigit, digitsVal_toDigits, h]

theorem isExitCodeForm_head {line : List Char} (h : isExitCodeForm line = true) :
    ∃ r, line = '[' :: r := by
  unfold isExitCodeForm at h
  split at h
  · exact ⟨_, rfl⟩
  · cases h

theorem stripPrefix_bracket (c : Char) (hc : c ≠ '[') (r : List Char) :
    stripPrefix [c, ' '] ('[' :: r) = none := by
  simp [stripPrefix, hc]

/-- `add_testcase_body` on a line that neither starts a command (`hstart`; below a command in a Markdown document a
second `$ ` line never does) nor continues one (`hn`) -/
theorem addBody_rest (expOk : List Char → Bool) {s : State κ} (l : List Char) (i : Nat)
    (hstart : (s.allowMultipleCommands || s.command.isEmpty) = true → stripPrefix ['$', ' '] l = none)
    (hn : s.inCommand = true → stripPrefix ['>', ' '] l = none) :
    s.addBody expOk l i =
      if s.command.isEmpty then .error (.bodyWithoutCommand (i + 1)) else
      if exitCodeOverflows l then .error (.exitCodeOutOfRange (i + 1)) else
      match extractExitCode l with
      | some c =>
        if s.exitCode.isSome then .error (.exitCodeTwice (i + 1))
        else .ok ({ s with inCommand := false, exitCode := some c }, .exitCode)
      | none =>
        if expOk l then .ok ({ s with inCommand := false, expectations := s.expectations ++ [l] }, .expectation)
        else .error (.expectationParse (i + 1)) := by
  have hA : (if (s.allowMultipleCommands || s.command.isEmpty) = true then stripPrefix ['$', ' '] l
      else none) = none := by
    split
    · next h => exact hstart h
    · rfl
  have hB : (if s.inCommand = true then stripPrefix ['>', ' '] l else none) = none := by
    split
    · next h => exact hn h
    · rfl
  -- `simp only []` reduces the `match` on the `none` just rewritten in
  unfold State.addBody
  rw [hA]
  simp only []
  unfold State.addBodyRest
  rw [hB]
  rfl

/-- **`add_testcase_body` on a line of the exit-code form**, whatever the state and the mode:
the errors in the order of the code, else the exit code is set; the expectations stay as they are -/
theorem addBody_exitForm (expOk : List Char → Bool) (s : State κ) (line : List Char) (i : Nat)
    (h : isExitCodeForm line = true) :
    s.addBody expOk line i =
      if s.command.isEmpty then .error (.bodyWithoutCommand (i + 1))
      else match extractExitCode line with
        | none => .error (.exitCodeOutOfRange (i + 1))
        | some c =>
          if s.exitCode.isSome then .error (.exitCodeTwice (i + 1))
          else .ok ({ s with inCommand := false, exitCode := some c }, .exitCode) := by
  obtain ⟨r, rfl⟩ := isExitCodeForm_head h
  rw [addBody_rest expOk _ i (fun _ => by simp [stripPrefix]) (fun _ => by simp [stripPrefix])]
  cases hc : s.command.isEmpty with
  | true => simp
  | false =>
    cases hx : extractExitCode ('[' :: r) with
    | none => simp [exitCodeOverflows, h, hx]
    | some c => simp [exitCodeOverflows, hx]

theorem addBody_exit (expOk : List Char → Bool) {s : State κ} {line : List Char} {c : Nat} (i : Nat)
    (hc : s.command ≠ []) (hx : extractExitCode line = some c) (hn : s.exitCode = none) :
    s.addBody expOk line i = .ok ({ s with inCommand := false, exitCode := some c }, .exitCode) := by
  have he : s.command.isEmpty = false := by simpa using hc
  simp [addBody_exitForm expOk s line i (isExitCodeForm_of_extract hx), he, hx, hn]

theorem addBody_exp (expOk : List Char → Bool) {s : State κ} {line : List Char} (i : Nat)
    (hc : s.command ≠ []) (hstart : s.allowMultipleCommands = true → stripPrefix ['$', ' '] line = none)
    (hcont : s.inCommand = true → stripPrefix ['>', ' '] line = none)
    (hf : isExitCodeForm line = false) (he : expOk line = true) :
    s.addBody expOk line i =
      .ok ({ s with inCommand := false, expectations := s.expectations ++ [line] }, .expectation) := by
  have hemp : s.command.isEmpty = false := by simpa using hc
  simp [addBody_rest expOk line i (fun h => hstart (by simpa [hemp] using h)) hcont, hemp,
    exitCodeOverflows_of_not_form hf, extractExitCode_of_not_form hf, he]

theorem addBody_ok (expOk : List Char → Bool) {s s' : State κ} {line : List Char} {i : Nat} {ct : CodeType}
    (h : s.addBody expOk line i = .ok (s', ct)) :
    (∃ l s1, stripPrefix ['$', ' '] line = some l ∧ ct = .commandStart ∧
      (s.command = [] ∧ s1 = { s with inCommand := true } ∨
        s.command ≠ [] ∧ State.endTestcase { s with inCommand := true } i = .ok s1) ∧
      s' = { s1 with outputStartIndex := s1.outputStartIndex.or (some i), command := s1.command ++ [l] }) ∨
    (s.command ≠ [] ∧ (s.allowMultipleCommands = true → stripPrefix ['$', ' '] line = none) ∧
      ((∃ l, s.inCommand = true ∧ stripPrefix ['>', ' '] line = some l ∧ ct = .commandContinue ∧
          s' = { s with command := s.command ++ [l] }) ∨
       ((s.inCommand = true → stripPrefix ['>', ' '] line = none) ∧
         ((∃ c, extractExitCode line = some c ∧ ct = .exitCode ∧ s.exitCode = none ∧
            s' = { s with inCommand := false, exitCode := some c }) ∨
          (isExitCodeForm line = false ∧ expOk line = true ∧ ct = .expectation ∧
            s' = { s with inCommand := false, expectations := s.expectations ++ [line] }))))) := by
  unfold State.addBody at h
  split at h
  · next l hl =>
    left
    have hl' : stripPrefix ['$', ' '] line = some l := by
      split at hl
      · exact hl
      · cases hl
    dsimp only at h
    split at h
    · cases h
    · next s1 hs1 =>
      cases h
      refine ⟨l, s1, hl', rfl, ?_, ?_⟩
      · split at hs1
        · next hc => exact .inr ⟨by simpa using hc, hs1⟩
        · next hc => cases hs1; exact .inl ⟨by simpa using hc, rfl⟩
      · cases h : s1.outputStartIndex <;> simp [h]
  · next hstart =>
    right
    unfold State.addBodyRest at h
    have hstart' : s.command ≠ [] → s.allowMultipleCommands = true → stripPrefix ['$', ' '] line = none := by
      intro _ ha
      simpa [ha] using hstart
    split at h
    · next l hl =>
      have hl' : s.inCommand = true ∧ stripPrefix ['>', ' '] line = some l := by
        split at hl
        · next hin => exact ⟨hin, hl⟩
        · cases hl
      split at h
      · cases h
      · next hc =>
        cases h
        have hc : s.command ≠ [] := by simpa using hc
        exact ⟨hc, hstart' hc, .inl ⟨l, hl'.1, hl'.2, rfl, rfl⟩⟩
    · next hcont =>
      have hcont' : s.inCommand = true → stripPrefix ['>', ' '] line = none := by
        intro hin
        simpa [hin] using hcont
      dsimp only at h
      split at h
      · cases h
      · next hc =>
        have hc : s.command ≠ [] := by simpa using hc
        refine ⟨hc, hstart' hc, .inr ⟨hcont', ?_⟩⟩
        split at h
        · cases h
        · next hov =>
          split at h
          · next c hcd =>
            split at h
            · cases h
            · next hs => cases h; exact .inl ⟨c, hcd, rfl, by simpa using hs, rfl⟩
          · next hcd =>
            split at h
            · next he =>
              cases h
              refine .inr ⟨?_, he, rfl, rfl⟩
              simpa [exitCodeOverflows, hcd] using hov
            · cases h

theorem addBody_without_command (expOk : List Char → Bool) {s : State κ} {line : List Char} (i : Nat)
    (hc : s.command = []) (hl : stripPrefix ['$', ' '] line = none) : ∃ e, s.addBody expOk line i = .error e := by
  cases h : s.addBody expOk line i with
  | error e => exact ⟨e, rfl⟩
  | ok r =>
    rcases addBody_ok expOk (s' := r.1) (ct := r.2) h with ⟨l, _, hl', _⟩ | ⟨hne, _⟩
    · rw [hl] at hl'; cases hl'
    · exact absurd hc hne

theorem addBody_exitForm_ok (expOk : List Char → Bool) {s s' : State κ} {line : List Char} {i : Nat}
    {ct : CodeType} (h : isExitCodeForm line = true) (he : s.addBody expOk line i = .ok (s', ct)) :
    ct = .exitCode ∧ s'.expectations = s.expectations ∧ s.exitCode = none ∧
      ∃ c, extractExitCode line = some c ∧ c ≤ i32Max ∧ s'.exitCode = some c := by
  obtain ⟨r, rfl⟩ := isExitCodeForm_head h
  have hle : ∀ c, extractExitCode ('[' :: r) = some c → c ≤ i32Max := by
    intro c hc
    rw [extractExitCode_eq] at hc
    simp [h] at hc
    omega
  rcases addBody_ok expOk he with ⟨l, _, hl, _⟩ | ⟨_, _, ⟨l, _, hl, _⟩ | ⟨_, ⟨c, hc, rfl, hn, rfl⟩ | ⟨hf, _⟩⟩⟩
  · simp [stripPrefix] at hl
  · simp [stripPrefix] at hl
  · exact ⟨rfl, rfl, hn, c, hc, hle c hc, rfl⟩
  · rw [h] at hf; cases hf

theorem addBody_expectation_not_form {κ} (expOk : List Char → Bool) {s s' : State κ} {line : List Char}
    {i : Nat} (he : s.addBody expOk line i = .ok (s', .expectation)) : isExitCodeForm line = false := by
  cases hf : isExitCodeForm line with
  | false => rfl
  | true => have := (addBody_exitForm_ok expOk hf he).1; cases this

/-- no expectation -- of the test being collected, of the tests pushed -- has the exit-code form -/
def NoExitForm (s : State κ) : Prop :=
  (∀ e ∈ s.expectations, isExitCodeForm e = false) ∧
  ∀ t ∈ s.testcases, ∀ e ∈ t.expectations, isExitCodeForm e = false

theorem NoExitForm.new (b : Bool) : NoExitForm (State.new b : State κ) := by
  constructor <;> intro _ h <;> cases h

theorem NoExitForm.setTitle {s : State κ} (h : NoExitForm s) (t : List Char) : NoExitForm (s.setTitle t) := h
theorem NoExitForm.setConfig {s : State κ} (h : NoExitForm s) (c : κ) : NoExitForm (s.setConfig c) := h

theorem NoExitForm.endTestcase {s s' : State κ} {i : Nat} (h : NoExitForm s)
    (he : s.endTestcase i = .ok s') : NoExitForm s' := by
  rcases endTestcase_ok he with ⟨_, rfl⟩ | ⟨_, rfl⟩
  · exact h
  · constructor
    · intro _ hm; cases hm
    · intro t ht
      rcases List.mem_append.mp ht with ht | ht
      · exact h.2 t ht
      · cases List.mem_singleton.mp ht; exact h.1

theorem NoExitForm.addBody (expOk : List Char → Bool) {s s' : State κ} {line : List Char} {i : Nat}
    {ct : CodeType} (h : NoExitForm s) (he : s.addBody expOk line i = .ok (s', ct)) : NoExitForm s' := by
  rcases addBody_ok expOk he with
    ⟨l, s1, _, _, hs1, rfl⟩ | ⟨_, _, ⟨l, _, _, _, rfl⟩ | ⟨_, ⟨c, _, _, _, rfl⟩ | ⟨hf, _, _, rfl⟩⟩⟩
  · rcases hs1 with ⟨_, rfl⟩ | ⟨_, hs1⟩
    · exact h
    · exact NoExitForm.endTestcase (s := { s with inCommand := true }) (s' := s1) h hs1
  · exact h
  · exact h
  · refine ⟨fun e hm => ?_, h.2⟩
    rcases List.mem_append.mp hm with hm | hm
    · exact h.1 e hm
    · cases List.mem_singleton.mp hm; exact hf

end Scrut.LineParser
