import ScrutModel.Lemmas.DiffC01

namespace Scrut.Diff

variable (n m : Nat) (es : Nat → Exp) (mt : Nat → Nat → Bool)

/-- `k` can be reached from `i` by skipping only optional expectations -/
def Reach (i k : Nat) : Prop := i ≤ k ∧ k < n ∧ ∀ j, i ≤ j → j < k → (es j).optional = true

/-- expectations that may legally take the next line in configuration `(i, o)`;
    `o = true` means expectation `i` is multiline and already holds a line -/
def Cand (i : Nat) (o : Bool) (k : Nat) : Prop :=
  if o then k = i ∨ Reach n es (i+1) k else Reach n es i k

def nextI (k : Nat) : Nat := if (es k).multiline then k else k + 1
def nextO (k : Nat) : Bool := (es k).multiline

/-- the NFA for `e1{q1} … en{qn}` accepts lines `j..m` from configuration `(i, o)` -/
inductive NAcc : Nat → Bool → Nat → Prop
  | done {i o} : (∀ t, (if o then i + 1 else i) ≤ t → t < n → (es t).optional = true) → NAcc i o m
  | step {i o j k} : j < m → Cand n es i o k → mt k j = true →
      NAcc (nextI es k) (nextO es k) (j+1) → NAcc i o j

/-- one-line-lookahead determinism along the reading of lines `j..m` -/
inductive Det : Nat → Bool → Nat → Prop
  | done {i o j} : m ≤ j → Det i o j
  | step {i o j} : j < m →
      (∀ k k', Cand n es i o k → mt k j = true → Cand n es i o k' → mt k' j = true → k = k') →
      (∀ k, Cand n es i o k → mt k j = true → Det (nextI es k) (nextO es k) (j+1)) → Det i o j

section steps
variable {n m es mt}

theorem Det.mono {i o i' o' j} (h : Det n m es mt i o j)
    (hsub : ∀ k, Cand n es i' o' k → Cand n es i o k) : Det n m es mt i' o' j := by
  cases h with
  | done h => exact .done h
  | step hj hu hn =>
    exact .step hj (fun k k' c1 m1 c2 m2 => hu k k' (hsub k c1) m1 (hsub k' c2) m2)
      (fun k c mk => hn k (hsub k c) mk)

theorem cand_false {i k : Nat} : Cand n es i false k ↔ Reach n es i k := Iff.rfl
theorem cand_true {i k : Nat} : Cand n es i true k ↔ k = i ∨ Reach n es (i+1) k := Iff.rfl

theorem reach_iff {i k : Nat} :
    Reach n es i k ↔ (k = i ∧ i < n) ∨ ((es i).optional = true ∧ Reach n es (i+1) k) := by
  constructor
  · rintro ⟨h1, h2, h3⟩
    rcases Nat.eq_or_lt_of_le h1 with rfl | hlt
    · exact .inl ⟨rfl, h2⟩
    · exact .inr ⟨h3 i (Nat.le_refl _) hlt, hlt, h2, fun j hj => h3 j (Nat.le_of_succ_le hj)⟩
  · rintro (⟨rfl, h⟩ | ⟨ho, h1, h2, h3⟩)
    · exact ⟨Nat.le_refl _, h, fun j h1 h2 => absurd h2 (Nat.not_lt.2 h1)⟩
    · refine ⟨Nat.le_of_succ_le h1, h2, fun j hj1 hj2 => ?_⟩
      rcases Nat.eq_or_lt_of_le hj1 with rfl | hlt
      · exact ho
      · exact h3 j hlt hj2

theorem reach_self {i : Nat} (h : i < n) : Reach n es i i := reach_iff.2 (.inl ⟨rfl, h⟩)

theorem cand_self {i : Nat} {o : Bool} (h : i < n) : Cand n es i o i := by
  cases o
  · exact reach_self h
  · exact .inl rfl

theorem cand_eq_of_required {i k : Nat} (hq : (es i).optional = false)
    (h : Cand n es i false k) : k = i := by
  rcases reach_iff.1 h with h | h
  · exact h.1
  · rw [h.1] at hq; cases hq

theorem read {i o j k} (hj : j < m) (ha : NAcc n m es mt i o j) (hd : Det n m es mt i o j)
    (hc : Cand n es i o k) (hm : mt k j = true) :
    NAcc n m es mt (nextI es k) (nextO es k) (j+1) ∧ Det n m es mt (nextI es k) (nextO es k) (j+1) := by
  cases hd with
  | done h => omega
  | step _ hu hn =>
    cases ha with
    | done _ => omega
    | step _ hc' hm' hrest => cases hu _ _ hc' hm' hc hm; exact ⟨hrest, hn _ hc hm⟩

/-- Leaving an expectation behind: if `i` does not match the current line, the accepting run uses a
later candidate, so `i` was optional (unless it already holds lines) and everything carries over to
the configuration `(i+1, false)`, whose candidates are among those of `(i, o)`. -/
theorem leave {i o j} (hj : j < m) (hno : mt i j = false) (ha : NAcc n m es mt i o j)
    (hd : Det n m es mt i o j) :
    (o = false → (es i).optional = true) ∧ NAcc n m es mt (i+1) false j ∧ Det n m es mt (i+1) false j := by
  cases ha with
  | done _ => omega
  | step _ hc hm hrest =>
    rename_i k _
    have hk : k ≠ i := fun h => by rw [h, hno] at hm; cases hm
    have key : (o = false → (es i).optional = true) ∧ Reach n es (i+1) k := by
      cases o with
      | false =>
        rcases reach_iff.1 hc with h | h
        · exact absurd h.1 hk
        · exact ⟨fun _ => h.1, h.2⟩
      | true => exact ⟨(fun h => nomatch h), hc.resolve_left hk⟩
    refine ⟨key.1, .step hj key.2 hm hrest, hd.mono fun x hx => ?_⟩
    cases o with
    | false => exact reach_iff.2 (.inr ⟨key.1 rfl, hx⟩)
    | true => exact .inr hx

theorem leave_upto {i j} (hj : j < m) (k : Nat) (hik : i ≤ k) (hno : ∀ t, i ≤ t → t < k → mt t j = false)
    (ha : NAcc n m es mt i false j) (hd : Det n m es mt i false j) :
    (∀ t, i ≤ t → t < k → (es t).optional = true) ∧ NAcc n m es mt k false j ∧ Det n m es mt k false j := by
  induction hik with
  | refl => exact ⟨fun t h1 h2 => absurd h2 (Nat.not_lt.2 h1), ha, hd⟩
  | @step k hik ih =>
    obtain ⟨h1, h2, h3⟩ := ih fun t a b => hno t a (Nat.lt_succ_of_lt b)
    obtain ⟨h4, h5, h6⟩ := leave hj (hno k hik (Nat.lt_succ_self k)) h2 h3
    refine ⟨fun t a b => ?_, h5, h6⟩
    rcases Nat.eq_or_lt_of_le (Nat.le_of_lt_succ b) with rfl | hlt
    · exact h4 rfl
    · exact h1 t a hlt

theorem nacc_lt {i j} (hj : j < m) (ha : NAcc n m es mt i false j) : i < n := by
  cases ha with
  | done _ => omega
  | step _ hc _ _ => exact Nat.lt_of_le_of_lt hc.1 hc.2.1

end steps

/-- The loop simulates the NFA: its state `(ei, ms)` before line `li` is the configuration
`(i, o) = (ei, ms.isSome)` before line `j = li`. From a configuration that accepts the remaining lines
deterministically the loop records only matches and ends in a configuration that still accepts. -/
theorem loop_complete (ei li : Nat) (ms : Option Nat) (acc : List DL) :
    (∀ s, ms = some s → (es ei).multiline = true) → allMatched acc →
    NAcc n m es mt ei ms.isSome li → Det n m es mt ei ms.isSome li →
    allMatched (loop n m es mt ei li ms acc).2.2.2 ∧
    NAcc n m es mt (loop n m es mt ei li ms acc).1 (loop n m es mt ei li ms acc).2.2.1.isSome
      (loop n m es mt ei li ms acc).2.1 := by
  fun_induction loop n m es mt ei li ms acc
  all_goals intro hopen hall hacc hdet
  case case8 => exact ⟨hall, hacc⟩  -- loop left
  case case1 ei li ms acc hlt hm hmul hy _ =>
    -- multiline `ei` yields to `ei+1`: excluded by determinism, both are candidates and both match
    exfalso
    cases hdet with
    | done h => exact Nat.not_lt.2 h hlt.2
    | step hj hu hn =>
      have c2 : Cand n es ei ms.isSome (ei+1) := by
        cases ms with
        | some s => exact .inr (reach_self hy.1)
        | none => exact reach_iff.2 (.inr ⟨by simpa using hy.2.1, reach_self hy.1⟩)
      exact Nat.ne_of_lt (Nat.lt_succ_self ei) (hu ei (ei+1) (cand_self hlt.1) hm c2 hy.2.2)
  case case2 ei li ms acc hlt hm hmul hy ih =>  -- the line joins the run of `ei`
    have := read hlt.2 hacc hdet (cand_self hlt.1) hm
    simp only [nextI, nextO, hmul, if_true] at this
    exact ih (fun _ _ => hmul) hall this.1 this.2
  case case3 ei li ms acc hlt hm hmul ih =>  -- single-line match
    cases ms with
    | some s => exact absurd (hopen s rfl) hmul
    | none =>
      have := read hlt.2 hacc hdet (cand_self hlt.1) hm
      simp only [nextI, nextO, hmul] at this
      exact ih (fun _ h => nomatch h) (allMatched_snoc hall _ _) this.1 this.2
  case case4 ei li acc hlt hm s ih =>  -- no match, the run of `ei` ends
    have := leave hlt.2 (Bool.eq_false_iff.2 hm) hacc hdet
    exact ih (fun _ h => nomatch h) (allMatched_snoc hall _ _) this.2.1 this.2.2
  case case5 ei li acc hlt hm k hk hge ih =>
    -- a later expectation `k` matches: nothing in `ei ≤ t < k` does, so all of them are optional and
    -- nothing is reported
    have hk' := findFrom_some hk
    have hm' : mt ei li = false := Bool.eq_false_iff.2 hm
    have := leave_upto hlt.2 k (Nat.le_of_succ_le hk'.1)
      (fun t h1 h2 => (Nat.eq_or_lt_of_le h1).elim (· ▸ hm') (hk'.2.2.2 t · h2)) hacc hdet
    exact ih (fun _ h => nomatch h) (by rw [unmatchedOf_eq_nil es this.1, List.append_nil]; exact hall)
      this.2.1 this.2.2
  case case6 ei li acc hlt hm hk _ _ _ _ | case7 ei li acc hlt hm hk _ _ =>
    -- a later line matches `ei`, or `ei` is given up: excluded by acceptance, since no expectation from
    -- `ei` on matches the line
    have hm' : mt ei li = false := Bool.eq_false_iff.2 hm
    have hn : ei + 1 + (n - (ei + 1)) = n := Nat.add_sub_cancel' hlt.1
    have := leave_upto hlt.2 n (Nat.le_of_lt hlt.1)
      (fun t h1 h2 => (Nat.eq_or_lt_of_le h1).elim (· ▸ hm') (findFrom_none hk t · (hn.symm ▸ h2))) hacc hdet
    exact absurd (nacc_lt hlt.2 this.2.1) (Nat.lt_irrefl n)

theorem C03_complete (hacc : NAcc n m es mt 0 false 0) (hdet : Det n m es mt 0 false 0) :
    hasDiff (diff n m es mt) = false := by
  rw [hasDiff_false_iff]
  obtain ⟨ei, li, ms, acc, hloop, hinv, hli, hd⟩ := diff_eq_flush n m es mt
  have hc := loop_complete n m es mt 0 0 none [] (fun _ h => nomatch h) (fun x hx => nomatch hx) hacc hdet
  rw [hloop] at hc
  obtain ⟨hall, hnacc⟩ := hc
  rw [hd]
  dsimp only at hall hnacc
  -- the run that accepts the rest has no line left to read, so the expectations left over are optional
  cases ms with
  | some s =>
    cases hli (hinv.open_ s rfl).2.1
    cases hnacc with
    | step hj _ _ _ => omega
    | done hopt =>
      show allMatched (acc ++ [DL.matched ei (rangeFrom s m)] ++ unmatchedOf es (ei+1) n)
      rw [unmatchedOf_eq_nil es (a := ei+1) hopt, List.append_nil]; exact allMatched_snoc hall _ _
  | none =>
    cases hnacc with
    | step hj hc _ _ => exact absurd (hli (Nat.lt_of_le_of_lt hc.1 hc.2.1)) (Nat.ne_of_lt hj)
    | done hopt =>
      show allMatched (acc ++ unmatchedOf es ei n ++ if m < m then _ else [])
      rw [unmatchedOf_eq_nil es (a := ei) hopt, if_neg (Nat.lt_irrefl m), List.append_nil, List.append_nil]
      exact hall

end Scrut.Diff
