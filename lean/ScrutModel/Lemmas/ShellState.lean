import ScrutModel.Model.ShellState
/-!
Per-process execution is one session when the carrier is transparent on the states that are reached
(`perProcess_eq_session_of_inv`); the variable carrier of the template is transparent on the states
that benign histories reach (`Good`, `restore_persist_ext`).
-/
namespace Scrut.Shell

section Abstract
variable {σ Snip Out File : Type}

theorem perProcess_eq_session_of_inv
    (run : Snip → σ → σ × Out) (restore : Option File → σ) (persist : σ → File)
    (E : σ → σ → Prop) (Inv : σ → Prop) (P : Snip → Prop)
    (Etrans : ∀ a b c, E a b → E b c → E a c)
    (respects : ∀ c s t, E s t → (run c s).2 = (run c t).2 ∧ E (run c s).1 (run c t).1)
    (step : ∀ c s, P c → Inv s → Inv (run c s).1)
    (transparent : ∀ s, Inv s → E (restore (some (persist s))) s ∧ Inv (restore (some (persist s))))
    (hs : List (Snip × Bool)) (hP : ∀ p ∈ hs, P p.1) (f : Option File) (s : σ)
    (hI : Inv (restore f)) (h0 : E (restore f) s) :
    perProcess run restore persist hs f = session run hs s := by
  induction hs generalizing f s with
  | nil => simp [perProcess, session]
  | cons p rest ih =>
    obtain ⟨c, d⟩ := p
    have hr := respects c _ _ h0
    have hrest : ∀ p ∈ rest, P p.1 := fun p hp => hP p (List.mem_cons_of_mem _ hp)
    cases d with
    | true =>
      simp only [perProcess, session, if_true]
      rw [ih hrest f s hI h0]
    | false =>
      have ht := transparent _ (step c _ (hP (c, false) List.mem_cons_self) hI)
      simp only [perProcess, session, Bool.false_eq_true, if_false]
      rw [hr.1, ih hrest (some (persist (run c (restore f)).1)) (run c s).1 ht.2 (Etrans _ _ _ ht.1 hr.2)]

end Abstract

/-- a history is benign for the variable carrier: it creates no read-only variable, never unsets a
variable that the processes inherit from scrut's own environment, and touches no excluded name -/
def Benign (excluded : Nat → Bool) (inherited : Vars) (hs : List (Action × Bool)) : Prop :=
  ∀ p ∈ hs, match p.1 with
    | .readonly _ _ => False
    | .unset n => lookup inherited n = none ∧ excluded n = false
    | .assign n _ => excluded n = false
    | .export n _ => excluded n = false
    | .other => True

abbrev BenignAct (excluded : Nat → Bool) (inherited : Vars) (a : Action) : Prop :=
  Benign excluded inherited [(a, false)]

theorem Benign.act {excluded : Nat → Bool} {inherited : Vars} {hs : List (Action × Bool)}
    (h : Benign excluded inherited hs) : ∀ p ∈ hs, BenignAct excluded inherited p.1 :=
  fun p hp _ hq => List.mem_singleton.1 hq ▸ h p hp

/-- extensional equality of variable stores: same binding for every name -/
def Ext (a b : Vars) : Prop := ∀ n, lookup a n = lookup b n

theorem Ext.refl (a : Vars) : Ext a a := fun _ => rfl

theorem Ext.trans {a b c : Vars} (h₁ : Ext a b) (h₂ : Ext b c) : Ext a c :=
  fun n => (h₁ n).trans (h₂ n)

theorem lookup_nil (n : Nat) : lookup [] n = none := rfl

theorem lookup_cons (x : Var) (xs : Vars) (n : Nat) :
    lookup (x :: xs) n = if x.name = n then some x else lookup xs n := by
  unfold lookup
  by_cases h : x.name = n <;> simp [h]

theorem lookup_name {vs : Vars} {n : Nat} {v : Var} (h : lookup vs n = some v) : v.name = n := by
  simpa using List.find?_some h

theorem lookup_mem {vs : Vars} {n : Nat} {v : Var} (h : lookup vs n = some v) : v ∈ vs :=
  List.mem_of_find?_eq_some h

theorem lookup_eq_none_of_not_mem {vs : Vars} {n : Nat} (h : n ∉ vs.map (·.name)) :
    lookup vs n = none := by
  rw [lookup, List.find?_eq_none]
  intro v hv hn
  exact h (List.mem_map.2 ⟨v, hv, by simpa using hn⟩)

/-- a filter whose verdict on the bindings of `n` is known (`b`) keeps or drops the binding of `n` -/
theorem lookup_filter (p : Var → Bool) (n : Nat) (b : Bool) :
    ∀ vs : Vars, (∀ v ∈ vs, v.name = n → p v = b) → lookup (vs.filter p) n = if b then lookup vs n else none := by
  intro vs
  induction vs with
  | nil => intro _; cases b <;> rfl
  | cons x xs ih =>
    intro h
    have ih := ih (fun v hv => h v (List.mem_cons_of_mem _ hv))
    by_cases hx : x.name = n
    · have hp : p x = b := h x List.mem_cons_self hx
      cases b with
      | false => rw [List.filter_cons_of_neg (by simp [hp]), ih]; rfl
      | true => rw [List.filter_cons_of_pos hp, lookup_cons, lookup_cons, if_pos hx, if_pos hx]; rfl
    · by_cases hp : p x = true
      · rw [List.filter_cons_of_pos hp, lookup_cons, lookup_cons, if_neg hx, if_neg hx, ih]
      · rw [List.filter_cons_of_neg hp, lookup_cons, if_neg hx, ih]

theorem lookup_remove (vs : Vars) (n m : Nat) :
    lookup (remove vs n) m = if n = m then none else lookup vs m := by
  by_cases h : n = m
  · rw [if_pos h, remove, lookup_filter _ m false vs (fun v _ hv => by simp [hv, h])]; rfl
  · rw [if_neg h, remove, lookup_filter _ m true vs (fun v _ hv => by simpa [hv] using Ne.symm h)]; rfl

theorem lookup_setVar (vs : Vars) (v : Var) (n : Nat) :
    lookup (setVar vs v) n = if v.name = n then some v else lookup vs n := by
  rw [setVar, lookup, List.find?_append]
  show (lookup (remove vs v.name) n).or (lookup [v] n) = _
  rw [lookup_remove, lookup_cons, lookup_nil]
  by_cases h : v.name = n <;> simp [h]

theorem lookup_persistVars (excluded : Nat → Bool) {vs : Vars}
    (hro : ∀ v ∈ vs, v.readonly = false) (n : Nat) :
    lookup (persistVars excluded vs) n = if excluded n = true then none else lookup vs n := by
  rw [persistVars, lookup_filter _ n (!excluded n) vs (fun v hv hn => by simp [hro v hv, hn])]
  cases excluded n <;> rfl

theorem lookup_foldl_setVar (f : Vars) (hf : (f.map (·.name)).Nodup) (base : Vars) (n : Nat) :
    lookup (f.foldl setVar base) n = (lookup f n).or (lookup base n) := by
  induction f generalizing base with
  | nil => simp [lookup_nil]
  | cons x xs ih =>
    simp only [List.map_cons, List.nodup_cons] at hf
    rw [List.foldl_cons, ih hf.2, lookup_setVar, lookup_cons]
    by_cases hx : x.name = n
    · have : lookup xs n = none := lookup_eq_none_of_not_mem (hx ▸ hf.1)
      simp [hx, this]
    · simp [hx]

theorem mem_remove {vs : Vars} {n : Nat} {w : Var} (h : w ∈ remove vs n) : w ∈ vs :=
  (List.mem_filter.mp h).1

theorem mem_setVar {vs : Vars} {v w : Var} (h : w ∈ setVar vs v) : w ∈ vs ∨ w = v := by
  unfold setVar at h
  rcases List.mem_append.mp h with h | h
  · exact Or.inl (mem_remove h)
  · exact Or.inr (by simpa using h)

theorem mem_foldl_setVar {f base : Vars} {w : Var} (h : w ∈ f.foldl setVar base) :
    w ∈ base ∨ w ∈ f := by
  induction f generalizing base with
  | nil => exact Or.inl h
  | cons x xs ih =>
    rw [List.foldl_cons] at h
    rcases ih h with h | h
    · rcases mem_setVar h with h | h
      · exact Or.inl h
      · exact Or.inr (h ▸ List.mem_cons_self)
    · exact Or.inr (List.mem_cons_of_mem _ h)

theorem nodup_filter_names (p : Var → Bool) {vs : Vars} (h : (vs.map (·.name)).Nodup) :
    ((vs.filter p).map (·.name)).Nodup :=
  h.sublist (List.filter_sublist.map _)

theorem nodup_setVar {vs : Vars} (v : Var) (h : (vs.map (·.name)).Nodup) :
    ((setVar vs v).map (·.name)).Nodup := by
  unfold setVar
  rw [List.map_append, List.nodup_append]
  refine ⟨nodup_filter_names _ h, by simp, ?_⟩
  intro a ha b hb
  obtain ⟨w, hw, hwn⟩ := List.mem_map.mp ha
  have hne : w.name ≠ v.name := by simpa using (List.mem_filter.mp hw).2
  have hb' : b = v.name := by simpa using hb
  rw [← hwn, hb']
  exact hne

theorem nodup_foldl_setVar (f : Vars) {base : Vars} (h : (base.map (·.name)).Nodup) :
    ((f.foldl setVar base).map (·.name)).Nodup := by
  induction f generalizing base with
  | nil => exact h
  | cons x xs ih => exact ih (nodup_setVar x h)

theorem Ext.setVar {a b : Vars} (h : Ext a b) (w : Var) : Ext (setVar a w) (setVar b w) :=
  fun m => by rw [lookup_setVar, lookup_setVar, h m]

theorem Ext.remove {a b : Vars} (h : Ext a b) (n : Nat) : Ext (remove a n) (remove b n) :=
  fun m => by rw [lookup_remove, lookup_remove, h m]

/-- the shape `assign`, `export` and `readonly` share: a read-only binding blocks, any other is
replaced by `f` of it, no binding gives `w` -/
theorem Ext.update {a b : Vars} (h : Ext a b) (n : Nat) (f : Var → Var) (w : Var) :
    Ext (match lookup a n with
          | some old => if old.readonly then a else Shell.setVar a (f old)
          | none => Shell.setVar a w)
        (match lookup b n with
          | some old => if old.readonly then b else Shell.setVar b (f old)
          | none => Shell.setVar b w) := by
  rw [h n]
  split
  · split
    · exact h
    · exact h.setVar _
  · exact h.setVar _

theorem act_ext {a b : Vars} (h : Ext a b) (x : Action) : Ext (act a x) (act b x) := by
  cases x with
  | assign n v => exact h.update n (fun old => { old with value := v }) ⟨n, v, false, false⟩
  | «export» n v => exact h.update n (fun old => { old with value := v, exported := true }) ⟨n, v, true, false⟩
  | «readonly» n v => exact h.update n (fun old => { old with value := v, readonly := true }) ⟨n, v, false, true⟩
  | unset n =>
    simp only [act, h n]
    split
    · split
      · exact h
      · exact h.remove n
    · exact h
  | other => exact h

theorem observe_ext {a b : Vars} (h : Ext a b) (probes : List Nat) :
    observe probes a = observe probes b := by
  unfold observe
  apply List.map_congr_left
  intro n _
  rw [h n]

structure Good (excluded : Nat → Bool) (inherited s : Vars) : Prop where
  /-- (I1) no variable is read-only -/
  noRO : ∀ v ∈ s, v.readonly = false
  /-- (I2) every inherited name is still bound -/
  keeps : ∀ n, lookup inherited n ≠ none → lookup s n ≠ none
  /-- (I3) at most one binding per name -/
  nodup : (s.map (·.name)).Nodup
  /-- (I4) excluded names hold their inherited binding -/
  excl : ∀ n, excluded n = true → lookup s n = lookup inherited n

theorem good_inherited (excluded : Nat → Bool) (inherited : Vars)
    (hnodup : (inherited.map (·.name)).Nodup) (hro : ∀ v ∈ inherited, v.readonly = false) :
    Good excluded inherited inherited :=
  ⟨hro, fun _ h => h, hnodup, fun _ _ => rfl⟩

theorem good_setVar {excluded : Nat → Bool} {inherited s : Vars} (g : Good excluded inherited s)
    (w : Var) (hw : w.readonly = false) (he : excluded w.name = false) :
    Good excluded inherited (setVar s w) where
  noRO := by
    intro v hv
    rcases mem_setVar hv with hv | hv
    · exact g.noRO v hv
    · exact hv ▸ hw
  keeps := by
    intro n hn
    rw [lookup_setVar]
    by_cases h : w.name = n
    · simp [h]
    · simp only [h, if_false]; exact g.keeps n hn
  nodup := nodup_setVar w g.nodup
  excl := by
    intro n hn
    rw [lookup_setVar]
    have h : ¬ w.name = n := by
      intro e; rw [e, hn] at he; exact Bool.noConfusion he
    simp only [h, if_false]; exact g.excl n hn

theorem good_remove {excluded : Nat → Bool} {inherited s : Vars} (g : Good excluded inherited s)
    (n : Nat) (hi : lookup inherited n = none) (he : excluded n = false) :
    Good excluded inherited (remove s n) where
  noRO := fun v hv => g.noRO v (mem_remove hv)
  keeps := by
    intro m hm
    rw [lookup_remove]
    have h : ¬ n = m := by
      intro e; rw [e] at hi; exact hm hi
    simp only [h, if_false]; exact g.keeps m hm
  nodup := nodup_filter_names _ g.nodup
  excl := by
    intro m hm
    rw [lookup_remove]
    have h : ¬ n = m := by
      intro e; rw [e, hm] at he; exact Bool.noConfusion he
    simp only [h, if_false]; exact g.excl m hm

/-- the shape `assign` and `export` share, on a state without read-only variables -/
theorem good_update {excluded : Nat → Bool} {inherited s : Vars} (g : Good excluded inherited s)
    (n : Nat) (he : excluded n = false) (f : Var → Var) (w : Var)
    (hf : ∀ old, (f old).name = old.name ∧ (f old).readonly = old.readonly)
    (hw : w.name = n ∧ w.readonly = false) :
    Good excluded inherited (match lookup s n with
      | some old => if old.readonly then s else setVar s (f old)
      | none => setVar s w) := by
  split
  · rename_i old hl
    have hr : old.readonly = false := g.noRO old (lookup_mem hl)
    rw [hr]
    exact good_setVar g _ ((hf old).2.trans hr) (by rw [(hf old).1, lookup_name hl]; exact he)
  · exact good_setVar g _ hw.2 (by rw [hw.1]; exact he)

theorem good_act {excluded : Nat → Bool} {inherited s : Vars} (g : Good excluded inherited s)
    (a : Action) (hb : BenignAct excluded inherited a) :
    Good excluded inherited (act s a) := by
  have hb := hb (a, false) List.mem_cons_self
  cases a with
  | assign n v => exact good_update g n hb _ _ (fun _ => ⟨rfl, rfl⟩) ⟨rfl, rfl⟩
  | «export» n v => exact good_update g n hb _ _ (fun _ => ⟨rfl, rfl⟩) ⟨rfl, rfl⟩
  | unset n =>
    have hb' : lookup inherited n = none ∧ excluded n = false := hb
    simp only [act]
    split
    · rename_i old hl
      rw [g.noRO old (lookup_mem hl)]
      exact good_remove g n hb'.1 hb'.2
    · exact g
  | «readonly» n v => exact False.elim hb
  | other => exact g

theorem restore_persist_ext {excluded : Nat → Bool} {inherited s : Vars}
    (g : Good excluded inherited s) :
    Ext (restoreVars inherited (some (persistVars excluded s))) s := by
  intro n
  have hnd : ((persistVars excluded s).map (·.name)).Nodup := nodup_filter_names _ g.nodup
  show lookup ((persistVars excluded s).foldl setVar inherited) n = lookup s n
  rw [lookup_foldl_setVar _ hnd, lookup_persistVars excluded g.noRO]
  by_cases he : excluded n = true
  · simp only [he, if_true, Option.none_or]; exact (g.excl n he).symm
  · simp only [he]
    cases hl : lookup s n with
    | some v => simp
    | none =>
      show lookup inherited n = none
      cases hi : lookup inherited n with
      | none => rfl
      | some v => exact absurd hl (g.keeps n (by simp [hi]))

theorem good_restore_persist {excluded : Nat → Bool} {inherited s : Vars}
    (hnodup : (inherited.map (·.name)).Nodup) (hro : ∀ v ∈ inherited, v.readonly = false)
    (g : Good excluded inherited s) :
    Good excluded inherited (restoreVars inherited (some (persistVars excluded s))) where
  noRO := by
    intro v hv
    have hv' : v ∈ (persistVars excluded s).foldl setVar inherited := hv
    rcases mem_foldl_setVar hv' with h | h
    · exact hro v h
    · exact g.noRO v (List.mem_filter.mp h).1
  keeps := by
    intro n hn
    rw [restore_persist_ext g n]; exact g.keeps n hn
  nodup := nodup_foldl_setVar _ hnodup
  excl := by
    intro n hn
    rw [restore_persist_ext g n]; exact g.excl n hn

theorem runPerProcess_eq (excluded : Nat → Bool) (inherited : Vars) (probes : List Nat) :
    ∀ (hs : List (Action × Bool)) (f : Option Vars), runPerProcess excluded inherited probes hs f =
      perProcess (fun a vs => (act vs a, observe probes (act vs a))) (restoreVars inherited)
        (persistVars excluded) hs f := by
  intro hs
  induction hs with
  | nil => intro f; rfl
  | cons p rest ih => intro f; simp only [runPerProcess, perProcess, ih]

theorem runSession_eq (probes : List Nat) : ∀ (hs : List (Action × Bool)) (vs : Vars),
    runSession probes hs vs = session (fun a vs => (act vs a, observe probes (act vs a))) hs vs := by
  intro hs
  induction hs with
  | nil => intro vs; rfl
  | cons p rest ih => intro vs; simp only [runSession, session, ih]

end Scrut.Shell
