import ScrutModel.Lemmas.Basic
import ScrutModel.Lemmas.TestRun
import ScrutModel.Lemmas.Crlf
import ScrutModel.Lemmas.DiffC01
import ScrutModel.Lemmas.Markdown
/-!
# `scrut test` on one Markdown document, one process per test (`Model/TestRun.lean` sections 1-5)

Every rule decides every line (the lossy decoder never runs out of fuel) and `render_output` never
panics, so the output of a test on a completed run and its `Exec` test case are functions of the
test and the run.  With the closed forms of the executor loop on completed commands this gives
`runTests` in closed form; the statements about a given report are read off it.
-/
namespace Scrut.TestRun
open Scrut

/-- the recorded bytes of the stream `TestCase::validate` compares: `stderr` iff
`output_stream: stderr`, else what was recorded as stdout (under `combined`: both) -/
def selectedStream (t : Test) (r : Ran) : Option Bytes :=
  (record t.cfg r).map (fun p => if t.cfg.outputStream = some .stderr then p.2 else p.1)

/-- the command of `t` ended with `t`'s skip code (`skip_document_code`, 80 unless configured) -/
def hitsSkip (t : Test) (r : Ran) : Bool := decide (r.code = t.cfg.skipCode.getD 80)

/-- some test of the document ended with its skip code -/
def skips (tests : List Test) (runs : List Ran) : Bool :=
  (tests.zip runs).any (fun p => hitsSkip p.1 p.2)

/-- the selected stream is accepted by the test's expectations -/
def outputAccepted (t : Test) (r : Ran) : Bool :=
  (selectedStream t r).bind (accepts t.exps) == some true

/-- the verdict on a judged test, spelled out: exit-code gate, then the selected stream -/
def verdict (t : Test) (r : Ran) : Exec.Verdict :=
  if r.code ≠ t.expected.getD 0 then .invalidExit r.code (t.expected.getD 0)
  else if outputAccepted t r then .ok else .malformed

/-- `a[j]` = index of the expectation output line `j` is matched by: every line is matched (no
gaps), in order, by an expectation whose rule matches it; every non-optional expectation receives
at least one line, every non-multiline one at most one -/
structure Matched (exps : List CExp) (lines : List Bytes) (a : List Nat) : Prop where
  total : a.length = lines.length
  inOrder : a.Pairwise (· ≤ ·)
  isMatch : ∀ (j i : Nat) (l : Bytes), a[j]? = some i → lines[j]? = some l →
    ∃ e : CExp, exps[i]? = some e ∧ e.rule.matches l = some true
  atLeast : ∀ (i : Nat) (e : CExp), exps[i]? = some e → e.optional = false → i ∈ a
  atMost : ∀ (i : Nat) (e : CExp), exps[i]? = some e → e.multiline = false → a.count i ≤ 1

theorem hitsSkip_iff (t : Test) (r : Ran) : hitsSkip t r = true ↔ r.code = t.cfg.skipCode.getD 80 := by
  simp [hitsSkip]

theorem skips_iff (tests : List Test) (runs : List Ran) :
    skips tests runs = true ↔
      ∃ (i : Nat) (t : Test) (r : Ran), tests[i]? = some t ∧ runs[i]? = some r ∧ hitsSkip t r = true := by
  unfold skips
  rw [List.any_eq_true]
  constructor
  · rintro ⟨⟨t, r⟩, hm, hp⟩
    obtain ⟨i, hi, he⟩ := List.getElem_of_mem hm
    have hz : (tests.zip runs)[i]? = some (t, r) := by rw [List.getElem?_eq_getElem hi, he]
    rw [List.getElem?_zip_eq_some] at hz
    exact ⟨i, t, r, hz.1, hz.2, hp⟩
  · rintro ⟨i, t, r, h1, h2, h3⟩
    have hz : (tests.zip runs)[i]? = some (t, r) := List.getElem?_zip_eq_some.2 ⟨h1, h2⟩
    exact ⟨(t, r), List.mem_of_getElem? hz, h3⟩

theorem validate_eq_verdict (t : Test) (r : Ran) (o : Exec.Out) (a : Bool) (h : t.out r = .ok o) :
    Exec.validate (t.tc a) o = verdict t r := by
  obtain ⟨so, se, ao, ae, hrec, hao, hae, rfl⟩ := out_inv h
  have hacc : outputAccepted t r = (if t.cfg.outputStream = some .stderr then ae else ao) := by
    unfold outputAccepted selectedStream
    rw [hrec]
    split <;> simp [*]
  unfold verdict
  rw [hacc, ← selected_of_out t a ao ae r.code]
  rfl

/-- what a chunk of the lossy decoder leaves is a suffix of what it was given: every branch of
`lossyStep` returns `r0` or one of its tails -/
theorem lossyStep_suffix (b0 : UInt8) (r0 : Bytes) : (lossyStep b0 r0).2 <:+ r0 := by
  fun_cases lossyStep b0 r0 <;> simp [List.suffix_cons_iff]

theorem lossyLoop_some : ∀ (fuel : Nat) (bs : Bytes), bs.length ≤ fuel → ∃ cs, lossyLoop fuel bs = some cs := by
  intro fuel
  induction fuel with
  | zero =>
    intro bs h
    have : bs = [] := List.eq_nil_of_length_eq_zero (by omega)
    subst this
    exact ⟨[], rfl⟩
  | succ fuel ih =>
    intro bs h
    cases bs with
    | nil => exact ⟨[], rfl⟩
    | cons b0 r0 =>
      have hl := (lossyStep_suffix b0 r0).length_le
      obtain ⟨cs, hcs⟩ := ih (lossyStep b0 r0).2 (by simp at h; omega)
      refine ⟨(lossyStep b0 r0).1 :: cs, ?_⟩
      simp only [lossyLoop]
      rw [hcs]
      rfl

theorem fromUtf8Lossy_some (bs : Bytes) : ∃ cs, fromUtf8Lossy bs = some cs :=
  lossyLoop_some bs.length bs (Nat.le_refl _)

theorem matches_some (r : Rule) (line : Bytes) : ∃ b, r.matches line = some b := by
  cases r with
  | equal e => exact ⟨_, rfl⟩
  | noEol e => exact ⟨_, rfl⟩
  | escaped b => exact ⟨_, rfl⟩
  | glob p =>
    obtain ⟨cs, h⟩ := fromUtf8Lossy_some line
    exact ⟨Glob.globRuleMatches p cs, by simp [Rule.matches, h]⟩
  | cramGlob p =>
    cases hd : Utf8.utf8Decode line with
    | none => exact ⟨false, by simp [Rule.matches, hd]⟩
    | some cs => exact ⟨Glob.cramRuleMatches p cs, by simp [Rule.matches, hd]⟩

theorem accepts_some (exps : List CExp) (stream : Bytes) : ∃ b, accepts exps stream = some b := by
  unfold accepts diffOf matrix
  obtain ⟨tbl, h⟩ := mapM_option_total
    (fun e : CExp => (Newline.splitAtNewline stream).mapM (fun l => e.rule.matches l)) exps
    (fun e _ => mapM_option_total _ _ (fun l _ => matches_some e.rule l))
  exact ⟨_, by simp only [h]; rfl⟩

/-- `accepts` as a total function (`accepts_some`) -/
def accBit (exps : List CExp) (s : Bytes) : Bool := (accepts exps s).getD false

theorem accepts_eq (exps : List CExp) (s : Bytes) : accepts exps s = some (accBit exps s) := by
  obtain ⟨b, h⟩ := accepts_some exps s
  rw [accBit, h]; rfl

/-- `SubprocessRunner::run` records something for every completed command: `render_output` cannot
panic (`Crlf.renderOutput_strip`, `Crlf.renderOutput_no_strip`) -/
theorem record_some (c : Yaml.Cfg) (r : Ran) : ∃ so se, record c r = some (so, se) := by
  have hr : ∀ raw, ∃ b, render c raw = some b := by
    intro raw
    unfold render
    by_cases hs : c.stripAnsi = some true
    · rw [hs, Crlf.renderOutput_strip]; exact ⟨_, rfl⟩
    · rw [Crlf.renderOutput_no_strip _ _ _ _ hs]; exact ⟨_, rfl⟩
  unfold record
  by_cases hc : c.outputStream = some .combined
  · obtain ⟨o, ho⟩ := hr (r.stdout ++ r.stderr)
    obtain ⟨e, he⟩ := hr []
    exact ⟨o, e, by simp [hc, ho, he]⟩
  · obtain ⟨o, ho⟩ := hr r.stdout
    obtain ⟨e, he⟩ := hr r.stderr
    exact ⟨o, e, by simp [hc, ho, he]⟩

/-- `record` as a total function (`record_some`) -/
def recorded (c : Yaml.Cfg) (r : Ran) : Bytes × Bytes := (record c r).getD ([], [])

theorem record_eq (c : Yaml.Cfg) (r : Ran) : record c r = some (recorded c r) := by
  obtain ⟨so, se, h⟩ := record_some c r
  rw [recorded, h]; rfl

/-- the output of test `t` on the completed run `r`, as `Exec` sees it: `Test.out` as a total
function (`out_eq`) -/
def outOf (t : Test) (r : Ran) : Exec.Out :=
  ⟨.code r.code, accBit t.exps (recorded t.cfg r).1, accBit t.exps (recorded t.cfg r).2⟩

/-- the test case `t`, as `Exec` sees it: `Test.tc` with the acceptance of the empty output filled in -/
def tcOf (t : Test) : Exec.TC := t.tc (accBit t.exps [])

theorem hitsSkip_eq (t : Test) (r : Ran) :
    decide ((outOf t r).status = .code (Exec.skipCodeOf (tcOf t))) = hitsSkip t r := by
  simp [hitsSkip, outOf, tcOf, Exec.skipCodeOf, Test.tc]

theorem out_eq (t : Test) (r : Ran) : t.out r = .ok (outOf t r) := by
  simp only [Test.out, record_eq, accepts_eq, outOf]

theorem zipOuts_eq : ∀ (tests : List Test) (runs : List Ran),
    zipOuts tests runs = .ok ((tests.zip runs).map fun p => outOf p.1 p.2)
  | [], _ => rfl
  | _ :: _, [] => rfl
  | t :: ts, r :: rs => by simp only [zipOuts, out_eq, zipOuts_eq ts rs, List.zip_cons_cons, List.map_cons]

theorem mapM_tc_eq (tests : List Test) :
    tests.mapM (fun t => (accepts t.exps []).map t.tc) = some (tests.map tcOf) := by
  induction tests with
  | nil => rfl
  | cons t ts ih => rw [List.mapM_cons, ih, accepts_eq]; rfl

theorem zipOuts_ne_crash : ∀ (tests : List Test) (runs : List Ran), zipOuts tests runs ≠ .error .crash := by
  intro tests runs h
  rw [zipOuts_eq] at h
  cases h

/-- the runner `runTests` hands to the executor (its `let runner`, under a name): the completed run
of test `i`, no time passes -/
def runnerOf (outs : List Exec.Out) : Exec.Runner := fun i _ =>
  match outs.toArray[i]? with
  | some o => (o, 0)
  | none => (⟨.unknown, false, false⟩, 0)

/-- the outcomes `scrut test` reports for a document, spelled out -/
def expectedOutcomes (tests : List Test) (runs : List Ran) : List Exec.Outcome :=
  if skips tests runs then (List.range tests.length).map (fun i => (i, Exec.Verdict.skipped))
  else (tests.zip runs).mapIdx (fun i p => (i, verdict p.1 p.2))

theorem runTests_eq (tests : List Test) (runs : List Ran) (hlen : tests.length ≤ runs.length) :
    runTests tests runs = .report (expectedOutcomes tests runs)
      (if (expectedOutcomes tests runs).any (fun o => Exec.isFailure o.2) then 50 else 0) := by
  -- outputs and `Exec` test cases are images of the zipped list of tests and runs
  have hzip : (tests.map tcOf).zip ((tests.zip runs).map fun p => outOf p.1 p.2) =
      (tests.zip runs).map fun p => (tcOf p.1, outOf p.1 p.2) := by
    conv => lhs; arg 1; rw [← List.map_fst_zip hlen, List.map_map]
    exact List.zip_map'
  have hrun : ∀ j o, ((tests.zip runs).map fun p => outOf p.1 p.2)[j]? = some o →
      (∃ c, o.status = .code c) ∧
      ∀ lim, (runnerOf ((tests.zip runs).map fun p => outOf p.1 p.2) j lim).1 = o := by
    intro j o hj
    refine ⟨?_, fun lim => by simp [runnerOf, hj]⟩
    rw [List.getElem?_map] at hj
    obtain ⟨p, _, rfl⟩ := Option.map_eq_some_iff.1 hj
    exact ⟨_, rfl⟩
  have hout := Exec.runDocument_completed none _ (tests.map tcOf) _
    (by rw [List.length_map, List.length_map, List.length_zip]; omega) hrun
  rw [hzip, List.any_map, List.length_map] at hout
  have he : Exec.runDocument (tests.map tcOf) (Exec.execAll none
      (runnerOf ((tests.zip runs).map fun p => outOf p.1 p.2)) (tests.map tcOf)).1 =
      expectedOutcomes tests runs := by
    rw [hout, expectedOutcomes, skips]
    congr 1
    · congr 2
      funext p
      exact hitsSkip_eq p.1 p.2
    · apply List.ext_getElem?
      intro i
      simp only [List.getElem?_mapIdx, List.getElem?_map, Option.map_map]
      congr 1
      funext p
      exact congrArg (Prod.mk i) (validate_eq_verdict p.1 p.2 _ _ (out_eq p.1 p.2))
  unfold runTests
  rw [if_neg (by omega), zipOuts_eq, mapM_tc_eq]
  simp only
  rw [Exec.exitStatus_one]
  -- the `let runner` of `runTests` is `runnerOf` of the outputs by definition, so `he` applies
  exact congrArg (fun o => Result.report o (if o.any (fun o => Exec.isFailure o.2) then 50 else 0)) he

theorem runTests_report {tests : List Test} {runs : List Ran} {outcomes : List Exec.Outcome}
    {status : Nat} (h : runTests tests runs = .report outcomes status) :
    tests.length ≤ runs.length ∧ status = Exec.exitStatus [some outcomes] ∧
    ((skips tests runs = true ∧
        outcomes = (List.range tests.length).map (fun i => (i, Exec.Verdict.skipped))) ∨
     (skips tests runs = false ∧ outcomes.map (·.1) = List.range tests.length ∧
        ∀ (i : Nat) (v : Exec.Verdict), (i, v) ∈ outcomes ↔
          ∃ (t : Test) (r : Ran), tests[i]? = some t ∧ runs[i]? = some r ∧ v = verdict t r)) := by
  have hlen : tests.length ≤ runs.length := by
    refine Nat.le_of_not_lt fun hl => ?_
    rw [runTests, if_pos hl] at h
    cases h
  rw [runTests_eq tests runs hlen] at h
  obtain ⟨rfl, rfl⟩ := Result.report.inj h
  refine ⟨hlen, (Exec.exitStatus_one _).symm, ?_⟩
  unfold expectedOutcomes
  cases skips tests runs
  · refine .inr ⟨rfl, ?_, fun i v => ?_⟩
    · apply List.ext_getElem?
      intro i
      simp only [Bool.false_eq_true, if_false, List.getElem?_map, List.getElem?_mapIdx, Option.map_map]
      by_cases hi : i < tests.length
      · rw [List.getElem?_range hi, List.getElem?_eq_getElem (by rw [List.length_zip]; omega)]
        rfl
      · rw [List.getElem?_eq_none (by rw [List.length_zip]; omega),
          List.getElem?_eq_none (by rw [List.length_range]; omega)]
        rfl
    · simp only [Bool.false_eq_true, if_false, List.mem_mapIdx, Prod.mk.injEq]
      constructor
      · rintro ⟨j, hj, rfl, rfl⟩
        obtain ⟨ht, hr⟩ := List.getElem?_zip_eq_some.1 (List.getElem?_eq_getElem hj)
        exact ⟨_, _, ht, hr, rfl⟩
      · rintro ⟨t, r, ht, hr, rfl⟩
        have hz := (List.getElem?_zip_eq_some (z := (t, r))).2 ⟨ht, hr⟩
        obtain ⟨hj, he⟩ := List.getElem?_eq_some_iff.1 hz
        exact ⟨i, hj, rfl, by rw [he]⟩
  · exact .inl ⟨rfl, rfl⟩

theorem matrix_cell {exps : List CExp} {lines : List Bytes} {tbl : List (List Bool)}
    (h : matrix exps lines = some tbl) (i j : Nat) (e : CExp) (l : Bytes)
    (he : exps[i]? = some e) (hl : lines[j]? = some l) :
    e.rule.matches l = some (cell tbl i j) := by
  obtain ⟨row, hrow, hm⟩ := (mapM_option_pairs _ exps tbl h).get i e he
  obtain ⟨y, hy, hmy⟩ := (mapM_option_pairs _ lines row hm).get j l hl
  rw [hmy]
  simp [cell, hrow, hy]

theorem accepts_sound {exps : List CExp} {stream : Bytes} (h : accepts exps stream = some true) :
    ∃ a, Matched exps (Newline.splitAtNewline stream) a := by
  obtain ⟨d, hd, hdiff⟩ := (accepts_true_iff exps stream).1 h
  unfold diffOf at hd
  simp only at hd
  cases hm : matrix exps (Newline.splitAtNewline stream) with
  | none => simp [hm] at hd
  | some tbl =>
    simp only [hm, Option.map_some, Option.some.injEq] at hd
    subst hd
    obtain ⟨a, ha⟩ := Diff.C01_no_false_pass _ _ _ _ hdiff
    refine ⟨a, ha.total, ha.inOrder, ?_, ?_, ?_⟩
    · intro j i l hj hl
      obtain ⟨hjl, hji⟩ := List.getElem?_eq_some_iff.1 hj
      have hin : i < exps.length := ha.inRange i (by rw [← hji]; exact List.getElem_mem hjl)
      have hcell := ha.isMatch j hjl
      rw [hji] at hcell
      refine ⟨exps[i], List.getElem?_eq_getElem hin, ?_⟩
      rw [matrix_cell hm i j exps[i] l (List.getElem?_eq_getElem hin) hl, hcell]
    · intro i e he hopt
      have hin : i < exps.length := (List.getElem?_eq_some_iff.1 he).1
      exact ha.atLeast i hin (by simp [quant, he, hopt])
    · intro i e he hmul
      have hin : i < exps.length := (List.getElem?_eq_some_iff.1 he).1
      exact ha.atMost i hin (by simp [quant, he, hmul])

theorem verdict_ok_iff (t : Test) (r : Ran) :
    verdict t r = .ok ↔
      r.code = t.expected.getD 0 ∧
        ∃ s, selectedStream t r = some s ∧ accepts t.exps s = some true := by
  unfold verdict outputAccepted
  by_cases hc : r.code = t.expected.getD 0
  · cases hs : selectedStream t r with
    | none => simp [hc]
    | some s =>
      cases ha : accepts t.exps s with
      | none => simp [hc, ha]
      | some b => cases b <;> simp [hc, ha]
  · simp [hc]

theorem test_succeeds_iff (t : Test) (r : Ran) (o : Exec.Out) (a : Bool) (h : t.out r = .ok o) :
    Exec.validate (t.tc a) o = .ok ↔
      r.code = t.expected.getD 0 ∧
      ∃ so se, record t.cfg r = some (so, se) ∧
        accepts t.exps (if t.cfg.outputStream = some .stderr then se else so) = some true := by
  rw [validate_eq_verdict t r o a h, verdict_ok_iff, selectedStream, record_eq]
  simp only [Option.map_some, Option.some.injEq, exists_eq_left']
  exact and_congr_right fun _ => ⟨fun h => ⟨_, _, rfl, h⟩, fun ⟨_, _, e, h⟩ => e ▸ h⟩

theorem verdict_kinds (t : Test) (r : Ran) :
    verdict t r = .ok ∨ verdict t r = .invalidExit r.code (t.expected.getD 0) ∨
      verdict t r = .malformed := by
  unfold verdict
  by_cases hc : r.code = t.expected.getD 0
  · by_cases ha : outputAccepted t r = true <;> simp [hc, ha]
  · simp [hc]

theorem runTests_kinds (tests : List Test) (runs : List Ran) :
    (runs.length < tests.length → runTests tests runs = .missingRun) ∧
    (tests.length ≤ runs.length → ∃ outcomes status, runTests tests runs = .report outcomes status) := by
  refine ⟨?_, fun h => ⟨_, _, runTests_eq tests runs h⟩⟩
  intro h
  unfold runTests
  rw [if_pos h]

theorem runTests_ok_sound {tests : List Test} {runs : List Ran} {outcomes : List Exec.Outcome}
    {status i : Nat} (h : runTests tests runs = .report outcomes status)
    (hi : (i, Exec.Verdict.ok) ∈ outcomes) :
    ∃ (t : Test) (r : Ran), tests[i]? = some t ∧ runs[i]? = some r ∧
      r.code = t.expected.getD 0 ∧
      (∃ s, selectedStream t r = some s ∧ accepts t.exps s = some true) ∧
      skips tests runs = false := by
  obtain ⟨_, _, hcases⟩ := runTests_report h
  rcases hcases with ⟨_, ho⟩ | ⟨hs, _, hmem⟩
  · rw [ho] at hi
    obtain ⟨j, _, he⟩ := List.mem_map.1 hi
    cases he
  · obtain ⟨t, r, ht, hr, hv⟩ := (hmem i .ok).1 hi
    obtain ⟨hc, hacc⟩ := (verdict_ok_iff t r).1 hv.symm
    exact ⟨t, r, ht, hr, hc, hacc, hs⟩

theorem runTests_skip {tests : List Test} {runs : List Ran} {outcomes : List Exec.Outcome}
    {status : Nat} (h : runTests tests runs = .report outcomes status) :
    (skips tests runs = true →
      outcomes = (List.range tests.length).map (fun i => (i, Exec.Verdict.skipped)) ∧ status = 0) ∧
    (∀ i, (i, Exec.Verdict.skipped) ∈ outcomes ↔ (i < tests.length ∧ skips tests runs = true)) ∧
    (∀ o ∈ outcomes, o.2 = .ok ∨ o.2 = .malformed ∨ o.2 = .skipped ∨ ∃ c e, o.2 = .invalidExit c e) := by
  obtain ⟨_, hst, hcases⟩ := runTests_report h
  refine Exec.report_shape hst (hcases.imp id fun ⟨hs, hfst, hmem⟩ => ⟨hs, hfst, ?_⟩)
  rintro ⟨i, v⟩ ho
  obtain ⟨t, r, _, _, rfl⟩ := (hmem i v).1 ho
  rcases verdict_kinds t r with hk | hk | hk
  · exact .inl hk
  · exact .inr (.inr ⟨_, _, hk⟩)
  · exact .inr (.inl hk)

theorem readFile_ne_crash (bytes : Bytes) : readFile bytes ≠ .error .crash := by
  unfold readFile
  rw [Crlf.replaceCrlf_eq_spec]
  simp only
  split <;> simp

theorem testDocument_report_inv {text : List Char} {runs : List Ran} {outcomes : List Exec.Outcome}
    {status : Nat} (h : testDocument text runs = .report outcomes status) :
    ∃ p tests, Markdown.parseMarkdown parseEnv text = .ok p ∧
      p.docConfigs.all frontMatterHarmless = true ∧ p.tests.mapM prepare = .ok tests ∧
      runTests tests runs = .report outcomes status := by
  unfold testDocument at h
  split at h
  · cases h
  · cases h
  · rename_i p hp
    by_cases hf : p.docConfigs.all frontMatterHarmless = true
    · simp only [hf, Bool.not_true, Bool.false_eq_true, if_false] at h
      split at h
      · cases h
      · cases h
      · rename_i tests hm
        exact ⟨p, tests, hp, hf, hm, h⟩
    · simp [hf] at h

theorem testDocumentBytes_parseError_iff (bytes : Bytes) (runs : List Ran) :
    testDocumentBytes bytes runs = .parseError ↔
      readFile bytes = .error .notUtf8 ∨
      ∃ text e, readFile bytes = .ok text ∧ Markdown.parseMarkdown parseEnv text = .error e := by
  unfold testDocumentBytes
  cases hr : readFile bytes with
  | error e =>
    cases e with
    | crash => exact absurd hr (readFile_ne_crash bytes)
    | notUtf8 => simp
  | ok text =>
    simp only [reduceCtorEq, false_or, Except.ok.injEq, exists_and_left, exists_eq_left']
    unfold testDocument
    cases hp : Markdown.parseMarkdown parseEnv text with
    | error e =>
      cases e with
      | crash => exact absurd hp (Markdown.parseLines_ne_crash _ _)
      | _ => simp
    | ok p =>
      simp only [reduceCtorEq, exists_false, iff_false]
      by_cases hf : p.docConfigs.all frontMatterHarmless = true
      · simp only [hf, Bool.not_true, Bool.false_eq_true, if_false]
        split
        · simp
        · simp
        · rename_i tests _
          by_cases hl : tests.length ≤ runs.length
          · obtain ⟨o, s, hk⟩ := (runTests_kinds tests runs).2 hl
            rw [hk]; simp
          · rw [(runTests_kinds tests runs).1 (by omega)]; simp
      · simp [hf]

/-- `tests` are the prepared test cases of the document `bytes`: it can be read, parsed, its
front-matter is of the recognised harmless shape, and every test case is inside the composition -/
def DocTests (bytes : Bytes) (tests : List Test) : Prop :=
  ∃ text p, readFile bytes = .ok text ∧ Markdown.parseMarkdown parseEnv text = .ok p ∧
    p.docConfigs.all frontMatterHarmless = true ∧ p.tests.mapM prepare = .ok tests

theorem testDocumentBytes_eq_runTests {bytes : Bytes} {tests : List Test} (runs : List Ran)
    (hd : DocTests bytes tests) : testDocumentBytes bytes runs = runTests tests runs := by
  obtain ⟨text, p, h1, h2, h3, h4⟩ := hd
  simp [testDocumentBytes, testDocument, h1, h2, h3, h4]

theorem testDocumentBytes_report_iff (bytes : Bytes) (runs : List Ran)
    (outcomes : List Exec.Outcome) (status : Nat) :
    testDocumentBytes bytes runs = .report outcomes status ↔
      ∃ tests, DocTests bytes tests ∧ runTests tests runs = .report outcomes status := by
  constructor
  · intro h
    unfold testDocumentBytes at h
    split at h
    · cases h
    · cases h
    · rename_i text ht
      obtain ⟨p, tests, h1, h2, h3, h4⟩ := testDocument_report_inv h
      exact ⟨tests, ⟨text, p, ht, h1, h2, h3⟩, h4⟩
  · rintro ⟨tests, hd, h⟩
    rw [testDocumentBytes_eq_runTests runs hd, h]

theorem testDocumentBytes_missingRun {bytes : Bytes} {tests : List Test} (runs : List Ran)
    (hd : DocTests bytes tests) (hlen : runs.length < tests.length) :
    testDocumentBytes bytes runs = .missingRun := by
  rw [testDocumentBytes_eq_runTests runs hd, (runTests_kinds tests runs).1 hlen]

/-! ## a concrete document (non-vacuity of the hypotheses above), evaluated by the kernel

Two test cases: the first compares stdout with one `equal` expectation; the second is configured
`output_stream: stderr`, has a glob expectation, an optional `equal` expectation and expects the exit
code 3.

The kernel decodes a string literal through its UTF-8 bytes, which is slow for a text as long as a
document.  `String.toList_ofList` turns `"…".toList` into the list of its characters without any
evaluation (the literal IS `String.ofList […]`), so every evaluation of a document starts with that
rewrite.  The document is parsed once, in `ex_docTests`; the reports are those of `runTests` on its
prepared tests. -/

-- prepared tests are compared by evaluation
deriving instance DecidableEq for Test

def exBytes : Bytes := Utf8.utf8
  "# t\n\n```scrut\n$ echo a\na\n```\n\n```scrut {output_stream: stderr}\n$ cmd\nb* (glob)\nc (?)\n[3]\n```\n".toList

/-- `a\n` on stdout, exit 0; `x` on stdout, `bb\r\n` on stderr, exit 3 -/
def exRuns : List Ran := [⟨[97, 10], [], 0⟩, ⟨[120], [98, 98, 13, 10], 3⟩]
/-- … the second command writes a second line `x\n` to stderr -/
def exRunsBad : List Ran := [⟨[97, 10], [], 0⟩, ⟨[120], [98, 98, 13, 10, 120, 10], 3⟩]
/-- … the second command ends with 80 -/
def exRunsSkip : List Ran := [⟨[97, 10], [], 0⟩, ⟨[120], [], 80⟩]

def exTests : List Test :=
  [⟨{ outputStream := some .stdout, skipCode := some 80 }, [⟨.equal [97], false, false⟩], none⟩,
   ⟨{ outputStream := some .stderr, skipCode := some 80 },
    [⟨.glob ['b', '*'], false, false⟩, ⟨.equal [99], true, false⟩], some 3⟩]

theorem ex_docTests : DocTests exBytes exTests := by
  unfold DocTests exBytes
  refine ⟨"# t\n\n```scrut\n$ echo a\na\n```\n\n```scrut {output_stream: stderr}\n$ cmd\nb* (glob)\nc (?)\n[3]\n```\n".toList,
    { docConfigs := [],
      tests := [
        { title := ['t'], command := ["echo a".toList], exitCode := none, expectations := [['a']],
          lineNumber := 4, config := some none },
        { title := [], command := ["cmd".toList], exitCode := some 3,
          expectations := ["b* (glob)".toList, "c (?)".toList], lineNumber := 9,
          config := some (some "output_stream: stderr".toList) }] }, ?_⟩
  repeat rw [String.toList_ofList]
  decide +kernel

theorem ex_runTests : runTests exTests exRuns = .report [(0, .ok), (1, .ok)] 0 := by
  decide +kernel
theorem ex_report : testDocumentBytes exBytes exRuns = .report [(0, .ok), (1, .ok)] 0 :=
  (testDocumentBytes_eq_runTests _ ex_docTests).trans ex_runTests
theorem ex_report_bad :
    testDocumentBytes exBytes exRunsBad = .report [(0, .ok), (1, .malformed)] 50 :=
  (testDocumentBytes_eq_runTests _ ex_docTests).trans (by decide +kernel)
theorem ex_report_skip :
    testDocumentBytes exBytes exRunsSkip = .report [(0, .skipped), (1, .skipped)] 0 :=
  (testDocumentBytes_eq_runTests _ ex_docTests).trans (by decide +kernel)
theorem ex_not_utf8 : testDocumentBytes [0x23, 0xff] [] = .parseError := by decide +kernel
/-- a scrut block without a command is a parse error -/
theorem ex_parse_error :
    testDocumentBytes (Utf8.utf8 "```scrut\nfoo\n```\n".toList) [] = .parseError := by
  rw [String.toList_ofList]
  decide +kernel
theorem ex_accepts : accepts [⟨.glob ['b', '*'], false, false⟩, ⟨.equal [99], true, false⟩] [98, 98, 10] = some true := by
  decide +kernel

end Scrut.TestRun
