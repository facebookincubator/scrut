import ScrutModel.Model.Duration
/-! humantime's parser reads back what its formatter writes: the text is a sequence of `number unit` items,
the parser is followed through one item and then through the rest with a unit pending; the items add up to
the duration. -/
namespace Scrut.Dur

theorem run_cons_ok {st st' : St} {c : Char} {cs : List Char} (h : step st c = .ok st') :
    run st (c :: cs) = run st' cs := by
  simp [run, h, bind, Except.bind]

theorem digit_facts : ∀ k, k < 10 →
    isDigit (Char.ofNat (48 + k)) = true ∧ digitVal (Char.ofNat (48 + k)) = k := by
  decide +kernel

theorem digitsAux_eq : ∀ (n fuel : Nat) (acc : List Char), n < fuel →
    digitsAux fuel n acc = natDigits n ++ acc := by
  intro n
  induction n using Nat.strongRecOn with
  | _ n ih =>
    intro fuel acc h
    obtain ⟨f, rfl⟩ : ∃ f, fuel = f + 1 := ⟨fuel - 1, by omega⟩
    simp only [natDigits, digitsAux]
    split
    · rfl
    · rw [ih (n / 10) (by omega) f _ (by omega), ih (n / 10) (by omega) n _ (by omega), List.append_assoc]
      rfl

theorem natDigits_eq (n : Nat) :
    natDigits n = (if n / 10 = 0 then [] else natDigits (n / 10)) ++ [Char.ofNat (48 + n % 10)] := by
  rw [natDigits, digitsAux]
  split
  · rfl
  · exact digitsAux_eq _ _ _ (by omega)

theorem natDigits_ne (n : Nat) : natDigits n ≠ [] := by
  rw [natDigits_eq]; simp

theorem natDigits_forall (P : Char → Prop) (h : ∀ k, k < 10 → P (Char.ofNat (48 + k))) (n : Nat) :
    ∀ c ∈ natDigits n, P c := by
  induction n using Nat.strongRecOn with
  | _ n ih =>
    rw [natDigits_eq]
    intro c hc
    rcases List.mem_append.mp hc with hc | hc
    · split at hc
      · cases hc
      · exact ih (n / 10) (by omega) c hc
    · cases List.mem_singleton.mp hc
      exact h _ (Nat.mod_lt _ (by decide))

theorem run_natDigits (out : Out) (any : Bool) (n : Nat) (hb : n ≤ U64MAX) : ∀ (tail : List Char),
    run (.first any out) (natDigits n ++ tail) = run (.num n out) tail := by
  induction n using Nat.strongRecOn with
  | _ n ih =>
    intro tail
    have ⟨hd, hv⟩ := digit_facts (n % 10) (Nat.mod_lt _ (by decide))
    rw [natDigits_eq]
    split
    · rename_i h0
      have hn : n % 10 = n := by omega
      rw [hn] at hd hv ⊢
      have hs : step (.first any out) (Char.ofNat (48 + n)) = .ok (.num n out) := by
        simp [step, hd, hv, pure, Except.pure]
      rw [List.nil_append, List.singleton_append, run_cons_ok hs]
    · have hs : step (.num (n / 10) out) (Char.ofNat (48 + n % 10)) = .ok (.num n out) := by
        have h1 : n / 10 * 10 ≤ U64MAX := by omega
        have h2 : n / 10 * 10 + n % 10 = n := by omega
        simp [step, hd, hv, ckMul, ckAdd, h1, h2, hb, bind, Except.bind, pure, Except.pure]
      rw [List.append_assoc, ih (n / 10) (by omega) (by omega), List.singleton_append, run_cons_ok hs]

/-- letters that are neither digits nor white space -/
def pureLetter (c : Char) : Bool := isLetter c && !isDigit c && !isWs c

theorem step_letter (n : Nat) (out : Out) (c : Char) (h : pureLetter c = true) :
    step (.num n out) c = .ok (.unit n none [c] out) ∧
    ∀ fr u, step (.unit n fr u out) c = .ok (.unit n fr (u ++ [c]) out) := by
  simp only [pureLetter, Bool.and_eq_true, Bool.not_eq_true'] at h
  simp [step, h.1.1, h.1.2, h.2, pure, Except.pure]

theorem run_unit_letters (n : Nat) (fr : Option (Nat × Nat)) (out : Out) :
    ∀ (l u tail : List Char), l.all pureLetter = true →
      run (.unit n fr u out) (l ++ tail) = run (.unit n fr (u ++ l) out) tail := by
  intro l
  induction l with
  | nil => intro u tail _; simp
  | cons c l ih =>
    intro u tail h
    simp only [List.all_cons, Bool.and_eq_true] at h
    rw [List.cons_append, run_cons_ok ((step_letter n out c h.1).2 fr u), ih _ _ h.2]
    simp

theorem run_num_letters (n : Nat) (out : Out) (l tail : List Char) (hne : l ≠ [])
    (h : l.all pureLetter = true) :
    run (.num n out) (l ++ tail) = run (.unit n none l out) tail := by
  cases l with
  | nil => exact absurd rfl hne
  | cons c l =>
    simp only [List.all_cons, Bool.and_eq_true] at h
    rw [List.cons_append, run_cons_ok (step_letter n out c h.1).1, run_unit_letters n none out l [c] tail h.2]
    simp

/- `u.text v` depends on `v` only through `v > 1`: the forms for 0 and 2 are all there are, so a fact
about unit names is checked on these eighteen texts. -/
theorem text_two (u : FU) (v : Nat) : u.text v = u.text 0 ∨ u.text v = u.text 2 := by
  by_cases hv : v > 1
  · right; cases u <;> simp only [FU.text, hv, if_true] <;> rfl
  · left; cases u <;> simp only [FU.text, hv, if_false] <;> rfl

theorem text_ind {P : FU → List Char → Prop} (h : ∀ u, P u (u.text 0) ∧ P u (u.text 2)) (u : FU) (v : Nat) :
    P u (u.text v) := by
  rcases text_two u v with e | e <;> rw [e]
  · exact (h u).1
  · exact (h u).2

def FU.pu : FU → PU
  | .year => .y | .month => .mo | .day => .d | .h => .h | .m => .m | .s => .s
  | .ms => .ms | .us => .us | .ns => .ns

def FU.secOf : FU → Nat
  | .year => 31557600 | .month => 2630016 | .day => 86400 | .h => 3600 | .m => 60 | .s => 1
  | _ => 0

def FU.nsOf : FU → Nat
  | .ms => 1000000 | .us => 1000 | .ns => 1
  | _ => 0

theorem text_unit (u : FU) (v : Nat) :
    (u.text v).all pureLetter = true ∧ u.text v ≠ [] ∧ unitOf (u.text v) = some u.pu :=
  text_ind (P := fun u t => t.all pureLetter = true ∧ t ≠ [] ∧ unitOf t = some u.pu)
    (by intro u; cases u <;> decide +kernel) u v

theorem addCurrent_plain (sec nsec : Nat) (out : Out) (h1 : out.nanos + nsec < NS)
    (h2 : out.secs + sec ≤ U64MAX) :
    addCurrent sec nsec out = .ok ⟨out.secs + sec, out.nanos + nsec⟩ := by
  have hu : out.nanos + nsec ≤ U64MAX := by simp only [NS, U64MAX] at *; omega
  have hn : ¬ (out.nanos + nsec > NS) := by omega
  have hne : ¬ (out.nanos + nsec = NS) := by omega
  simp [addCurrent, ckAdd, hu, hn, hne, h2, bind, Except.bind, pure, Except.pure]

theorem ckMul_ok (a b : Nat) (h : a * b ≤ U64MAX) : ckMul a b = .ok (a * b) := by simp [ckMul, h]

theorem unitMain_ok (u : FU) (v : Nat) (hS : v * u.secOf ≤ U64MAX) (hN : v * u.nsOf ≤ U64MAX) :
    unitMain u.pu v = .ok (v * u.secOf, v * u.nsOf) := by
  cases u <;> simp only [FU.secOf, FU.nsOf] at hS hN <;>
    simp only [FU.secOf, FU.nsOf, FU.pu, unitMain, Nat.mul_zero, Nat.mul_one] <;>
    first
      | rfl
      | (rw [ckMul_ok _ _ hS]; rfl)
      | (rw [ckMul_ok _ _ hN]; rfl)

theorem parseUnit_text (u : FU) (v : Nat) (out : Out)
    (h1 : out.nanos + v * u.nsOf < NS) (h2 : out.secs + v * u.secOf ≤ U64MAX) :
    parseUnit v none (u.text v) out = .ok ⟨out.secs + v * u.secOf, out.nanos + v * u.nsOf⟩ := by
  have hm : unitMain u.pu v = .ok (v * u.secOf, v * u.nsOf) := by
    apply unitMain_ok
    · omega
    · simp only [NS, U64MAX] at *
      omega
  simp [parseUnit, (text_unit u v).2.2, hm, addCurrent_plain _ _ _ h1 h2, bind, Except.bind, pure, Except.pure]

theorem run_item (out : Out) (any : Bool) (v : Nat) (u : FU) (tail : List Char) (hv : v ≤ U64MAX) :
    run (.first any out) (natDigits v ++ (u.text v ++ tail)) = run (.unit v none (u.text v) out) tail := by
  have ⟨hl, hne, _⟩ := text_unit u v
  rw [run_natDigits out any v hv, run_num_letters _ _ _ _ hne hl]

def totS : List (Nat × FU) → Nat
  | [] => 0
  | (v, u) :: r => v * u.secOf + totS r

def totN : List (Nat × FU) → Nat
  | [] => 0
  | (v, u) :: r => v * u.nsOf + totN r

/-- a value is bounded by what it contributes: every unit has a non-zero multiplier -/
theorem le_of_contribution (u : FU) (v : Nat) (hS : v * u.secOf ≤ U64MAX) (hN : v * u.nsOf < NS) :
    v ≤ U64MAX := by
  simp only [NS, U64MAX] at *
  cases u <;> simp only [FU.secOf, FU.nsOf] at hS hN <;> omega

def fin (r : R St) : R Out := r >>= finish

theorem fin_run_nil (st : St) : fin (run st []) = finish st := by
  simp [fin, run, bind, Except.bind, pure, Except.pure]

/-- after a completed item (`started = true`): the pending unit is added when the next blank or
the end of the text is seen -/
theorem pending (l : List (Nat × FU)) : ∀ (out : Out) (v : Nat) (u : FU),
    out.secs + v * u.secOf + totS l ≤ U64MAX → out.nanos + v * u.nsOf + totN l < NS →
    fin (run (.unit v none (u.text v) out) (renderItems true l)) =
      .ok ⟨out.secs + v * u.secOf + totS l, out.nanos + v * u.nsOf + totN l⟩ := by
  induction l with
  | nil =>
    intro out v u h1 h2
    simp only [totS, totN, Nat.add_zero] at h1 h2
    simp only [renderItems, fin_run_nil, finish, totS, totN, Nat.add_zero]
    exact parseUnit_text u v out h2 h1
  | cons it r ih =>
    intro out v u h1 h2
    obtain ⟨v', u'⟩ := it
    simp only [totS, totN] at h1 h2
    by_cases hz : v' = 0
    · subst hz
      simp only [renderItems, if_true, totS, totN, Nat.zero_mul, Nat.zero_add]
      simp only [Nat.zero_mul, Nat.zero_add] at h1 h2
      exact ih out v u h1 h2
    · simp only [renderItems, hz, if_false, if_true, totS, totN]
      have hp := parseUnit_text u v out (by omega) (by omega)
      have hstep : step (.unit v none (u.text v) out) ' ' =
          .ok (.first true ⟨out.secs + v * u.secOf, out.nanos + v * u.nsOf⟩) := by
        have hd : isDigit ' ' = false := by decide +kernel
        have hw : isWs ' ' = true := by decide +kernel
        simp [step, hd, hw, hp, bind, Except.bind, pure, Except.pure]
      have hv' : v' ≤ U64MAX := le_of_contribution u' v' (by omega) (by omega)
      rw [List.singleton_append, run_cons_ok hstep, run_item _ _ v' u' _ hv',
        ih _ v' u' (by simp only; omega) (by simp only; omega)]
      simp only [Out.mk.injEq, Except.ok.injEq]
      omega

theorem renderItems_first (l : List (Nat × FU)) :
    (renderItems false l = [] ∧ totS l = 0 ∧ totN l = 0) ∨
    ∃ (v : Nat) (u : FU) (r : List (Nat × FU)), v ≠ 0 ∧
      renderItems false l = natDigits v ++ (u.text v ++ renderItems true r) ∧
      totS l = v * u.secOf + totS r ∧ totN l = v * u.nsOf + totN r := by
  induction l with
  | nil => exact .inl ⟨rfl, rfl, rfl⟩
  | cons it r ih =>
    obtain ⟨v, u⟩ := it
    by_cases hz : v = 0
    · subst hz
      simpa only [renderItems, if_true, totS, totN, Nat.zero_mul, Nat.zero_add] using ih
    · exact .inr ⟨v, u, r, hz, by simp [renderItems, hz], rfl, rfl⟩

theorem items_tot (secs nanos : Nat) : totS (items secs nanos) = secs ∧ totN (items secs nanos) = nanos := by
  simp only [items, totS, totN, FU.secOf, FU.nsOf, Nat.mul_zero, Nat.mul_one, Nat.add_zero, Nat.zero_add]
  constructor <;> omega

theorem renderItems_roundtrip (l : List (Nat × FU)) (hS : totS l ≤ U64MAX) (hN : totN l < NS)
    (h0 : ¬ (totS l = 0 ∧ totN l = 0)) :
    fin (run (.first false ⟨0, 0⟩) (renderItems false l)) = .ok ⟨totS l, totN l⟩ := by
  rcases renderItems_first l with ⟨_, z1, z2⟩ | ⟨v, u, r, _, e, e1, e2⟩
  · exact absurd ⟨z1, z2⟩ h0
  · have hv : v ≤ U64MAX := le_of_contribution u v (by omega) (by omega)
    rw [e, run_item _ _ v u _ hv, pending r ⟨0, 0⟩ v u (by simp only; omega) (by simp only; omega)]
    simp only [Nat.zero_add, ← e1, ← e2]

theorem duration_roundtrip (secs nanos : Nat) (hn : nanos < NS) (hs : secs ≤ U64MAX) :
    parseDuration (formatDuration secs nanos) = .ok ⟨secs, nanos⟩ := by
  by_cases h0 : secs = 0 ∧ nanos = 0
  · obtain ⟨rfl, rfl⟩ := h0
    simp only [formatDuration, and_self, if_true]
    rfl
  · simp only [formatDuration, h0, if_false]
    have ⟨h1, h2⟩ := items_tot secs nanos
    have hmain := renderItems_roundtrip (items secs nanos) (by rw [h1]; exact hs) (by rw [h2]; exact hn)
      (by rw [h1, h2]; exact h0)
    rw [h1, h2] at hmain
    unfold parseDuration
    -- `parse_duration` treats the text "0" apart; the formatter never writes it: on "0" the machine errs
    by_cases hz : renderItems false (items secs nanos) = ['0']
    · rw [hz] at hmain
      have : fin (run (.first false ⟨0, 0⟩) ['0']) = .error .err := rfl
      rw [this] at hmain
      cases hmain
    · simp only [hz, if_false]
      exact hmain

end Scrut.Dur
