import ScrutModel.Lemmas.EscapingPrintable
/-!
# The escaped rendering as a sequence of pieces

Everything the escaper writes is a concatenation of *pieces*: a piece is a token of the two-pass
decoder (`Tok`) that is either a single character or starts with a backslash, and the only piece
containing a blank is the blank itself. Hence a blank of the rendering can be rewritten `\x20`
(`Rep.replace_space`), which is what `guard_tailing_no_eol` does.
-/
namespace Scrut.EscLemmas
open Scrut.Utf8 Scrut.Esc Scrut.EscF Scrut.Rules

-- `space`: the only piece with a blank in it is the blank itself, so a blank of the text can be
-- replaced without cutting a piece; `head`: a piece that does not start with a backslash is a single
-- character, so the first character of a text decides its first piece (`Rep.head`).
structure PieceOK (p : List Char) (b : List UInt8) : Prop where
  tok : Tok p b
  ne : p ≠ []
  nl : '\n' ∉ p
  space : ' ' ∈ p → p = [' ']
  head : ∀ c r, p = c :: r → c ≠ '\\' → r = []

abbrev Piece := List Char × List UInt8

def Pcs (ps : List Piece) : Prop := ∀ x ∈ ps, PieceOK x.1 x.2
def text (ps : List Piece) : List Char := ps.flatMap (·.1)
def bytes (ps : List Piece) : List UInt8 := ps.flatMap (·.2)

theorem Pcs.tok {ps : List Piece} (h : Pcs ps) : Tok (text ps) (bytes ps) :=
  Tok.flatMap _ _ ps (fun a ha => (h a ha).tok)

theorem Pcs.tail {x : Piece} {ps : List Piece} (h : Pcs (x :: ps)) : Pcs ps :=
  fun y hy => h y (List.mem_cons_of_mem _ hy)

theorem Pcs.no_nl {ps : List Piece} (h : Pcs ps) : '\n' ∉ text ps := by
  intro hm
  simp only [text, List.mem_flatMap] at hm
  obtain ⟨x, hx, hc⟩ := hm
  exact (h x hx).nl hc

theorem PieceOK.of_backslash {r : List Char} {b : List UInt8} (tok : Tok ('\\' :: r) b)
    (h : ∀ c ∈ r, c ≠ '\n' ∧ c ≠ ' ') : PieceOK ('\\' :: r) b where
  tok := tok
  ne := List.cons_ne_nil _ _
  nl hm := by
    rcases List.mem_cons.mp hm with e | hm
    · exact absurd e (by decide)
    · exact (h _ hm).1 rfl
  space hm := by
    rcases List.mem_cons.mp hm with e | hm
    · exact absurd e (by decide)
    · exact absurd rfl (h _ hm).2
  head c r' e hc := absurd (List.cons.inj e).1.symm hc

theorem utf8EncodeChar_lf : String.utf8EncodeChar '\n' = [10] := by decide +kernel

theorem charPiece {c : Char} (hb : c ≠ '\\') (hlf : NoLF (String.utf8EncodeChar c)) :
    PieceOK [c] (String.utf8EncodeChar c) := by
  refine ⟨Tok.char hb, by simp, ?_, ?_, ?_⟩
  · intro hm
    have : c = '\n' := (List.mem_singleton.mp hm).symm
    subst this
    exact hlf 10 (by rw [utf8EncodeChar_lf]; simp) (by decide)
  · intro hm
    have : c = ' ' := (List.mem_singleton.mp hm).symm
    rw [this]
  · intro c0 r he _
    simpa using (List.cons.inj he).2.symm

theorem backslashPiece : PieceOK ['\\', '\\'] [92] :=
  .of_backslash Tok.backslash (by decide)

theorem x20Piece : PieceOK ['\\', 'x', '2', '0'] [32] :=
  .of_backslash (Tok.hex (h1 := '2') (h2 := '0') (a := 2) (b := 0) (by decide) (by decide)) (by decide)

theorem bytePiece (b : UInt8) (hb : b.toNat ≠ 10) : PieceOK (byteToAscii b) [b] := by
  have tok := Tok.byte b hb
  have hlt : b.toNat < 256 := b.toNat_lt
  unfold byteToAscii at tok ⊢
  rcases byteToAsciiN_cases b.toNat with ⟨l, hl, e⟩ | ⟨h1, h2, h92, e⟩ | ⟨_, e⟩
  · have g := (escLetters_render _ hl).2
    rw [e] at tok ⊢
    exact .of_backslash tok (by simpa using ⟨g.ne_nl, g.ne_space⟩)
  · have := charPiece (ofNat_ne_backslash (n := b.toNat) (by omega) h92)
    rw [enc1 _ (by omega), UInt8.ofNat_toNat] at this
    rw [e]
    exact this (fun x hx => by rw [List.mem_singleton.mp hx]; exact hb)
  · have g1 := hexChar_graphic (b.toNat / 16) (by omega)
    have g2 := hexChar_graphic (b.toNat % 16) (by omega)
    rw [e] at tok ⊢
    exact .of_backslash tok (by simpa using ⟨⟨g1.ne_nl, g1.ne_space⟩, g2.ne_nl, g2.ne_space⟩)

/-- text `w` is a piece sequence standing for the bytes `bs` -/
def Rep (w : List Char) (bs : List UInt8) : Prop := ∃ ps, Pcs ps ∧ text ps = w ∧ bytes ps = bs

theorem Rep.nil : Rep [] [] := ⟨[], fun x hx => (by cases hx), rfl, rfl⟩

theorem Rep.single {p : List Char} {b : List UInt8} (h : PieceOK p b) : Rep p b :=
  ⟨[(p, b)], fun x hx => (by simp at hx; subst hx; exact h), by simp [text], by simp [bytes]⟩

theorem Rep.append {w1 w2 : List Char} {b1 b2 : List UInt8} (h1 : Rep w1 b1) (h2 : Rep w2 b2) :
    Rep (w1 ++ w2) (b1 ++ b2) := by
  obtain ⟨p1, hp1, rfl, rfl⟩ := h1
  obtain ⟨p2, hp2, rfl, rfl⟩ := h2
  refine ⟨p1 ++ p2, ?_, by simp [text], by simp [bytes]⟩
  intro x hx
  rcases List.mem_append.mp hx with h | h
  · exact hp1 x h
  · exact hp2 x h

theorem Rep.flatMap {α : Type} (f : α → List Char) (g : α → List UInt8) (l : List α)
    (h : ∀ a ∈ l, Rep (f a) (g a)) : Rep (l.flatMap f) (l.flatMap g) := by
  induction l with
  | nil => exact Rep.nil
  | cons a l ih =>
    simp only [List.flatMap_cons]
    exact Rep.append (h a (by simp)) (ih (fun x hx => h x (by simp [hx])))

theorem Rep.tok {w : List Char} {bs : List UInt8} (h : Rep w bs) : Tok w bs := by
  obtain ⟨ps, hp, rfl, rfl⟩ := h
  exact hp.tok

theorem Rep.no_nl {w : List Char} {bs : List UInt8} (h : Rep w bs) : '\n' ∉ w := by
  obtain ⟨ps, hp, rfl, rfl⟩ := h
  exact hp.no_nl

theorem Pcs.replace_space_rep {ps : List Piece} (h : Pcs ps) :
    ∀ (body s0 : List Char), text ps = body ++ ' ' :: s0 →
      Rep (body ++ '\\' :: 'x' :: '2' :: '0' :: s0) (bytes ps) := by
  induction ps with
  | nil => intro body s0 he; simp [text] at he
  | cons x ps ih =>
    intro body s0 he
    have hx := h x (by simp)
    have htl := Pcs.tail h
    have he' : x.1 ++ text ps = body ++ ' ' :: s0 := by simpa [text] using he
    rw [show bytes (x :: ps) = x.2 ++ bytes ps by simp [bytes]]
    -- the piece lies inside `body`
    have inBody : ∀ a', body = x.1 ++ a' → text ps = a' ++ ' ' :: s0 →
        Rep (body ++ '\\' :: 'x' :: '2' :: '0' :: s0) (x.2 ++ bytes ps) := by
      rintro a' rfl h2
      simpa using Rep.append (Rep.single hx) (ih htl a' s0 h2)
    rcases List.append_eq_append_iff.mp he' with ⟨a', h1, h2⟩ | ⟨c', h1, h2⟩
    · exact inBody a' h1 h2
    · cases c' with
      | nil => exact inBody [] (by simpa using h1.symm) (by simpa using h2.symm)
      | cons d c'' =>
        -- the blank lies in this piece, so the piece is the blank
        obtain ⟨rfl, hs0⟩ : ' ' = d ∧ s0 = c'' ++ text ps := by simpa using h2
        have hp := hx.space (by rw [h1]; simp)
        rw [hp] at h1
        obtain ⟨rfl, rfl⟩ : body = [] ∧ c'' = [] := by
          cases body with
          | nil => simpa using h1
          | cons b0 bt => simpa using congrArg List.length h1
        have hb32 : x.2 = [32] := by
          have hsp := Tok.char (c := ' ') (by decide)
          rw [show String.utf8EncodeChar ' ' = [32] by decide +kernel] at hsp
          exact Tok.unique (hp ▸ hx.tok) hsp
        rw [hb32, hs0]
        simpa using Rep.append (Rep.single x20Piece) (⟨ps, htl, rfl, rfl⟩ : Rep (text ps) (bytes ps))

theorem Rep.replace_space_rep {body s0 : List Char} {bs : List UInt8} (h : Rep (body ++ ' ' :: s0) bs) :
    Rep (body ++ '\\' :: 'x' :: '2' :: '0' :: s0) bs := by
  obtain ⟨ps, hp, ht, rfl⟩ := h
  exact hp.replace_space_rep body s0 ht

theorem Rep.replace_space {body s0 : List Char} {bs : List UInt8} (h : Rep (body ++ ' ' :: s0) bs) :
    Tok (body ++ '\\' :: 'x' :: '2' :: '0' :: s0) bs :=
  h.replace_space_rep.tok

theorem Rep.head {c : Char} {r : List Char} {bs : List UInt8} (h : Rep (c :: r) bs) (hc : c ≠ '\\') :
    ∃ b bs', bs = b ++ bs' ∧ Tok [c] b ∧ Rep r bs' := by
  obtain ⟨ps, hp, ht, rfl⟩ := h
  cases ps with
  | nil => simp [text] at ht
  | cons x ps =>
    have hx := hp x (by simp)
    have ht' : x.1 ++ text ps = c :: r := by simpa [text] using ht
    cases hx1 : x.1 with
    | nil => exact absurd hx1 hx.ne
    | cons c0 r0 =>
      rw [hx1] at ht'
      obtain ⟨rfl, ht'⟩ : c0 = c ∧ r0 ++ text ps = r := by simpa using ht'
      obtain rfl := hx.head c0 r0 hx1 hc
      exact ⟨x.2, bytes ps, by simp [bytes], hx1 ▸ hx.tok, ps, Pcs.tail hp, by simpa using ht', rfl⟩

theorem rep_encodeAscii (bs : List UInt8) (h : NoLF bs) : Rep (encodeAscii bs) bs := by
  have := Rep.flatMap byteToAscii (fun b => [b]) bs (fun b hb => Rep.single (bytePiece b (h b hb)))
  simpa [encodeAscii] using this

theorem rep_renderChar {isOther : Char → Bool} (hC : AsciiContract isOther) (c : Char)
    (hlf : NoLF (String.utf8EncodeChar c)) :
    Rep (renderChar isOther true c) (String.utf8EncodeChar c) := by
  unfold Esc.renderChar
  by_cases ho : isOther c = true
  · simp only [ho, if_true, escapedPrintableAscii, hasUnprintable_of_other hC c ho]
    exact rep_encodeAscii _ hlf
  · simp only [ho]
    by_cases hb : c = '\\'
    · subst hb
      simp only [and_self, if_true, utf8EncodeChar_backslash]
      exact Rep.single backslashPiece
    · simp only [hb, false_and, if_false]
      exact Rep.single (charPiece hb hlf)

theorem written_rep (m : Mode) (isOther : Char → Bool) (hC : m = .unicode → AsciiContract isOther)
    (bs : List UInt8) (hlf : NoLF bs) (hk : (written m isOther bs).1 = .escaped) :
    Rep (written m isOther bs).2 bs := by
  have hl' : lossyEq bs (escapedPrintable m isOther bs) = false := by
    cases hl : lossyEq bs (escapedPrintable m isOther bs) with
    | false => rfl
    | true => simp [written, hl] at hk
  rw [written_snd]
  have hascii : lossyEq bs (escapedPrintableAscii bs) = false → Rep (escapedPrintableAscii bs) bs := by
    intro h
    unfold escapedPrintableAscii at h ⊢
    by_cases hu : hasUnprintableAscii bs = true
    · simp only [hu, if_true]
      exact rep_encodeAscii bs hlf
    · have hu' : hasUnprintableAscii bs = false := by simpa using hu
      simp [hu', lossyEq_printable hu'] at h
  cases m with
  | ascii => exact hascii hl'
  | unicode =>
    have hC := hC rfl
    simp only [escapedPrintable, escapedPrintableUnicode] at hl' ⊢
    cases hd : utf8Decode bs with
    | none =>
      simp only [hd] at hl' ⊢
      exact hascii hl'
    | some cs =>
      simp only [hd] at hl' ⊢
      have hbs : utf8 cs = bs := utf8Decode_sound bs cs hd
      -- without an `is_other` character the rendering is the text, which compares equal
      have hne : cs.any isOther = true := by
        cases ha : cs.any isOther with
        | true => rfl
        | false =>
          rw [renderText_of_no_other cs ha] at hl'
          simp [lossyEq, hd] at hl'
      unfold renderText
      rw [hne, ← hbs]
      apply Rep.flatMap
      intro c hc
      apply rep_renderChar hC
      intro b hb
      exact hlf b (hbs ▸ mem_utf8 hc b hb)

end Scrut.EscLemmas
