import ScrutModel.Lemmas.OneLiner
/-! The typed layer reads back what `to_yaml_one_liner` writes: one invariant (`Reads`: tokens, keys in the
order of the source, `interpGo` arrives at the configuration) is carried over the entries of `toAst`. -/
namespace Scrut.Yaml
open Scrut.Dur

theorem fieldOf_name (f : Field) : fieldOf f.name = some f := by cases f <;> decide +kernel

theorem name_tok (f : Field) : GoodS (.plain f.name) = true ∧ utf8Len (Scalar.plain f.name).render ≤ 1024 := by
  cases f <;> decide +kernel

/-- what the flow parser and the typed layer need of a list of entries: tokens throughout, known keys
among `fs` in that order, and `interpGo` from `c0` ends in `c` -/
def Reads (a : Ast) (fs : List Field) (c0 c : Cfg) : Prop :=
  a.all GoodKV = true ∧ (knownKeys a).Sublist fs ∧ interpGo a c0 = .ok c

theorem Reads.opt {α : Type} (o : Option α) (f : Field) (v : α → Val) (upd : Option α → Cfg)
    {tail : Ast} {fs : List Field} {c0 c : Cfg}
    (hv : ∀ a, o = some a → GoodV (v a) = true ∧ setField f (v a) c0 = .ok (upd (some a)))
    (hnone : upd none = c0) (ht : Reads tail fs (upd o) c) : Reads (optEntry o f v tail) (f :: fs) c0 c := by
  obtain ⟨h1, h2, h3⟩ := ht
  cases o with
  | none => exact ⟨h1, h2.cons f, hnone ▸ h3⟩
  | some a =>
    obtain ⟨hg, hs⟩ := hv a rfl
    have hn := name_tok f
    refine ⟨?_, ?_, ?_⟩
    · simp only [optEntry, List.all_cons, GoodKV, h1, hg, hn.1, Bool.and_true, Bool.true_and, decide_eq_true_eq]
      exact hn.2
    · simpa [optEntry, knownKeys, Scalar.text, fieldOf_name] using h2.cons_cons f
    · simpa [optEntry, interpGo, Scalar.text, fieldOf_name, hs, bind, Except.bind] using h3

theorem optEntry_none {α : Type} (f : Field) (v : α → Val) (tail : Ast) : optEntry none f v tail = tail := rfl

theorem stream_facts (s : Stream) (c0 : Cfg) :
    GoodV (.sc (.plain s.text)) = true ∧
    setField .os (.sc (.plain s.text)) c0 = .ok { c0 with outputStream := some s } := by
  cases s <;> exact ⟨rfl, rfl⟩

theorem bool_good (b : Bool) : GoodV (.sc (.plain (boolText b))) = true := by cases b <;> decide +kernel

theorem bool_set (b : Bool) (c0 : Cfg) :
    setField .kc (.sc (.plain (boolText b))) c0 = .ok { c0 with keepCrlf := some b } ∧
    setField .de (.sc (.plain (boolText b))) c0 = .ok { c0 with detached := some b } ∧
    setField .sa (.sc (.plain (boolText b))) c0 = .ok { c0 with stripAnsi := some b } := by
  have : optBool (.sc (.plain (boolText b))) = .ok (some b) := by cases b <;> rfl
  simp [setField, this, bind, Except.bind, pure, Except.pure]

theorem dur_set (d : Nat × Nat) (h : WFd d) (c0 : Cfg) :
    setField .to (.sc (.plain (durText d))) c0 = .ok { c0 with timeout := some d } := by
  have ⟨h1, h2⟩ := durText_ne d h
  have hp := durText_parse d h
  simp [setField, optDur, Scalar.text, h1, h2, durOf, hp, bind, Except.bind, pure, Except.pure]

theorem int_facts (i : Int) (hr : -2147483648 ≤ i ∧ i ≤ 2147483647) (c0 : Cfg) :
    GoodV (.sc (.plain (intDigits i))) = true ∧
    setField .sk (.sc (.plain (intDigits i))) c0 = .ok { c0 with skipCode := some i } := by
  refine ⟨intDigits_tok i, ?_⟩
  have hn : isNullText (intDigits i) = false := by
    cases hn : isNullText (intDigits i) with
    | false => rfl
    | true =>
      have hi := intOfText_intDigits i
      simp only [isNullText, Bool.or_eq_true, decide_eq_true_eq] at hn
      rcases hn with (((hn | hn) | hn) | hn) | hn <;> rw [hn] at hi <;> cases hi
  simp [setField, optI32, hn, intOfText_intDigits, hr, bind, Except.bind, pure, Except.pure]

theorem kTimeout_good : GoodS (.plain kTimeout) = true ∧ utf8Len (Scalar.plain kTimeout).render ≤ 1024 := by
  decide +kernel
theorem kPath_good : GoodS (.plain kPath) = true ∧ utf8Len (Scalar.plain kPath).render ≤ 1024 := by
  decide +kernel

theorem wait_good (w : Wait) (h : WFd w.timeout) : GoodV (waitVal w) = true := by
  unfold waitVal
  split
  · have hd : GoodS (.plain (durText w.timeout)) = true := durText_tok _ h
    simp only [GoodV, List.all_cons, List.all_nil, GoodKS, kTimeout_good.1, kPath_good.1, hd,
      plainOrQuoted_good, Bool.and_true, Bool.true_and, Bool.and_eq_true, decide_eq_true_eq]
    exact ⟨kTimeout_good.2, kPath_good.2⟩
  · exact durText_tok _ h

theorem lookupAll_waitVal (t sc : Scalar) :
    lookupAll kTimeout [(.plain kTimeout, t), (.plain kPath, sc)] = [t] ∧
    lookupAll kPath [(.plain kTimeout, t), (.plain kPath, sc)] = [sc] := by
  constructor <;> simp [lookupAll, Scalar.text, kTimeout, kPath]

theorem wait_set (w : Wait) (h : WFd w.timeout) (c0 : Cfg) :
    setField .wt (waitVal w) c0 = .ok { c0 with wait := some w } := by
  obtain ⟨d, p⟩ := w
  have hp := durText_parse d h
  have hdur : durOf (durText d) = .ok d := by
    simp [durOf, hp, bind, Except.bind, pure, Except.pure]
  cases p with
  | none =>
    have hs := durText_isString d h
    simp [setField, waitVal, optWait, hs, hdur, bind, Except.bind, pure, Except.pure]
  | some p =>
    by_cases hsafe : isPlainSafe p = true
    · have hn := (plainSafe_facts p hsafe).2
      simp [setField, waitVal, plainOrQuoted, hsafe, optWait, lookupAll_waitVal, Scalar.text, hdur, hn,
        bind, Except.bind, pure, Except.pure]
    · simp [setField, waitVal, plainOrQuoted, hsafe, optWait, lookupAll_waitVal, Scalar.text, hdur,
        bind, Except.bind, pure, Except.pure]

theorem goodS_quoted (s : List Char) : GoodS (.quoted s) = true := rfl
theorem text_quoted (s : List Char) : (Scalar.quoted s).text = s := rfl

/-- every environment name renders to a key of at most 1024 bytes -/
def namesFit (e : List (List Char × List Char)) : Bool :=
  e.all fun kv => decide (utf8Len (plainOrQuoted kv.1).render ≤ 1024)

theorem env_good (e : List (List Char × List Char)) (h : namesFit e = true) : GoodV (envVal e) = true := by
  simp only [envVal, GoodV, List.all_map, List.all_eq_true]
  intro kv hkv
  have := List.all_eq_true.mp h kv hkv
  simp only [decide_eq_true_eq] at this
  simp only [Function.comp, GoodKS, plainOrQuoted_good, goodS_quoted, Bool.and_true, Bool.true_and, decide_eq_true_eq]
  exact this

theorem env_texts (e : List (List Char × List Char)) :
    ((e.map fun kv => (plainOrQuoted kv.1, Scalar.quoted kv.2)).map fun kv => (kv.1.text, kv.2.text)) = e := by
  induction e with
  | nil => rfl
  | cons kv r ih =>
    simp only [List.map_cons, plainOrQuoted_text, text_quoted] at ih ⊢
    rw [ih]

theorem env_set (e : List (List Char × List Char)) (c0 : Cfg) :
    setField .env (envVal e) c0 = .ok { c0 with env := e } := by
  have h1 : envOf (envVal e) =
      .ok ((e.map fun kv => (plainOrQuoted kv.1, Scalar.quoted kv.2)).map fun kv => (kv.1.text, kv.2.text)) := rfl
  rw [env_texts] at h1
  simp only [setField, h1, bind, Except.bind, pure, Except.pure]

/-- the Boolean form of `WFd` -/
def wfd (d : Nat × Nat) : Bool := decide (d.1 ≤ U64MAX) && decide (d.2 < NS)

theorem wfd_iff (d : Nat × Nat) : wfd d = true ↔ WFd d := by
  simp [wfd, WFd]

/-- **the guard of C17**: durations are `Duration`s (`secs < 2^64`, `nanos < 10^9`), the skip code
is an `i32`, and every environment name renders to at most 1024 bytes (YAML's simple-key limit) -/
def renderable (c : Cfg) : Bool :=
  (match c.timeout with | some d => wfd d | none => true) &&
  (match c.wait with | some w => wfd w.timeout | none => true) &&
  (match c.skipCode with | some i => decide (-2147483648 ≤ i ∧ i ≤ 2147483647) | none => true) &&
  namesFit c.env

/-- configurations made of the scalar keys `output_stream`, `keep_crlf`, `timeout`, `detached`,
`strip_ansi_escaping` (any subset, any values) -/
def ScalarOnly (c : Cfg) : Prop :=
  c.skipCode = none ∧ c.wait = none ∧ c.env = [] ∧ ∀ d, c.timeout = some d → WFd d

theorem Reads.envEntry (e : List (List Char × List Char)) (c0 : Cfg) (h0 : c0.env = []) (h : namesFit e = true) :
    Reads (if e.isEmpty then [] else [(Scalar.plain Field.env.name, envVal e)]) [.env] c0 { c0 with env := e } := by
  split
  · rename_i he
    have : e = [] := by simpa using he
    subst this
    refine ⟨rfl, List.nil_sublist _, ?_⟩
    obtain ⟨_, _, _, _, _, _, _, env⟩ := c0
    cases h0
    rfl
  · have hn := name_tok .env
    refine ⟨?_, ?_, ?_⟩
    · simp only [List.all_cons, List.all_nil, GoodKV, hn.1, env_good e h, Bool.and_true, Bool.true_and,
        decide_eq_true_eq]
      exact hn.2
    · simp [knownKeys, Scalar.text, fieldOf_name]
    · simp [interpGo, Scalar.text, fieldOf_name, env_set, bind, Except.bind, pure, Except.pure]

theorem renderable_iff (c : Cfg) : renderable c = true ↔
    (∀ d, c.timeout = some d → WFd d) ∧ (∀ w, c.wait = some w → WFd w.timeout) ∧
    (∀ i, c.skipCode = some i → -2147483648 ≤ i ∧ i ≤ 2147483647) ∧ namesFit c.env = true := by
  simp only [renderable, Bool.and_eq_true, and_assoc]
  refine and_congr ?_ (and_congr ?_ (and_congr ?_ Iff.rfl))
  · cases c.timeout <;> simp [wfd_iff]
  · cases c.wait <;> simp [wfd_iff]
  · cases c.skipCode <;> simp

theorem nodupB_sublist {l₁ l₂ : List Field} (h : l₁.Sublist l₂) : nodupB l₂ = true → nodupB l₁ = true := by
  induction h with
  | slnil => exact id
  | cons a _ ih => intro h2; simp only [nodupB, Bool.and_eq_true] at h2; exact ih h2.2
  | @cons_cons l₁ l₂ a hs ih =>
    intro h2
    simp only [nodupB, Bool.and_eq_true, Bool.not_eq_true', List.contains_eq_mem, decide_eq_false_iff_not] at h2 ⊢
    exact ⟨fun hm => h2.1 (hs.subset hm), ih h2.2⟩

/-- entry by entry, in the order `to_yaml_one_liner` writes them -/
theorem reads_toAst (c : Cfg) (h : renderable c = true) :
    Reads (toAst c) [.os, .kc, .to, .de, .sk, .sa, .wt, .env] {} c := by
  obtain ⟨hto, hwt, hsk, henv⟩ := (renderable_iff c).mp h
  obtain ⟨os, kc, to, de, sk, sa, wt, env⟩ := c
  refine .opt os .os _ (fun o => { outputStream := o }) (fun s _ => stream_facts s {}) rfl ?_
  refine .opt kc .kc _ (fun o => { outputStream := os, keepCrlf := o })
    (fun b _ => ⟨bool_good b, (bool_set b _).1⟩) rfl ?_
  refine .opt to .to _ (fun o => { outputStream := os, keepCrlf := kc, timeout := o })
    (fun d hd => ⟨durText_tok d (hto d hd), dur_set d (hto d hd) _⟩) rfl ?_
  refine .opt de .de _ (fun o => { outputStream := os, keepCrlf := kc, timeout := to, detached := o })
    (fun b _ => ⟨bool_good b, (bool_set b _).2.1⟩) rfl ?_
  refine .opt sk .sk _
    (fun o => { outputStream := os, keepCrlf := kc, timeout := to, detached := de, skipCode := o })
    (fun i hi => int_facts i (hsk i hi) _) rfl ?_
  refine .opt sa .sa _
    (fun o => { outputStream := os, keepCrlf := kc, timeout := to, detached := de, skipCode := sk, stripAnsi := o })
    (fun b _ => ⟨bool_good b, (bool_set b _).2.2⟩) rfl ?_
  refine .opt wt .wt _
    (fun o => { outputStream := os, keepCrlf := kc, timeout := to, detached := de, skipCode := sk, stripAnsi := sa, wait := o })
    (fun w hw => ⟨wait_good w (hwt w hw), wait_set w (hwt w hw) _⟩) rfl ?_
  exact .envEntry env _ rfl henv

theorem interp_toAst (c : Cfg) (h : renderable c = true) : interp (toAst c) = .ok c := by
  obtain ⟨_, h2, h3⟩ := reads_toAst c h
  rw [interp, nodupB_sublist h2 rfl, if_pos rfl, h3]

end Scrut.Yaml
