import ScrutModel.Lemmas.UpdateRetok
import ScrutModel.Lemmas.MarkdownAlign
/-!
# Behind an unterminated front-matter there is no test

The front-matter is recognised only in front of the first content (`content_start`: the `cs` of `Scan`), and an
unterminated one extends to the end of the document: behind it there is no test, so `scrut update` skips the
document ("no testcases").  Hence the guard `FrontClosed` of the document-level theorems follows from
`updateDocument … = .updated …` (`Updated.front` in `UpdateRunProps`).
-/
namespace Scrut.UpdateRun
open Scrut Scrut.Markdown Scrut.Update

/-- no `docConfig` token: what the tokenizer emits once content has started -/
def NoFrontTok (toks : List Tok) : Prop := ∀ t ∈ toks, ∀ ls, t ≠ .docConfig ls

theorem frontClosed_of_noFrontTok (N : Nat) : ∀ (toks : List Tok) (pos : Nat), NoFrontTok toks →
    frontClosed N pos toks = true
  | [], _, _ => rfl
  | .line _ _ :: r, pos, h => by
    rw [frontClosed_line]; exact frontClosed_of_noFrontTok N r _ (fun t ht => h t (by simp [ht]))
  | .verbatim _ _ _ :: r, pos, h => by
    rw [frontClosed_verbatim]; exact frontClosed_of_noFrontTok N r _ (fun t ht => h t (by simp [ht]))
  | .test _ _ _ _ :: r, pos, h => by
    rw [frontClosed_test]; exact frontClosed_of_noFrontTok N r _ (fun t ht => h t (by simp [ht]))
  | .docConfig ls :: r, pos, h => absurd rfl (h _ (by simp) ls)

theorem scan_noFront {L : List Line} {strict cs : Bool} {li : Nat} {src : List Line} {toks : List Tok}
    (h : Scan L strict cs li src toks) (hcs : cs = true) : NoFrontTok toks := by
  induction h with
  | nil => intro t ht; cases ht
  | line cs li l rest toks _ _ _ ih =>
    intro t ht ls
    rcases List.mem_cons.mp ht with rfl | ht
    · intro h; cases h
    · exact ih (by simp [hcs]) t ht ls
  | front => cases hcs
  | frontOpen => cases hcs
  | verb cs li opener bt language config body closer rest toks _ _ _ _ _ ih =>
    intro t ht ls
    rcases List.mem_cons.mp ht with rfl | ht
    · intro h; cases h
    · exact ih rfl t ht ls
  | test cs li opener bt language config body closer rest toks comments code _ _ _ _ _ _ _ ih =>
    intro t ht ls
    rcases List.mem_cons.mp ht with rfl | ht
    · intro h; cases h
    · exact ih rfl t ht ls

theorem scan_frontClosed_or_no_tests {L : List Line} {cs : Bool} {li : Nat} {src : List Line} {toks : List Tok}
    (h : Scan L false cs li src toks) :
    ∀ N, li + src.length = N → frontClosed N li toks = true ∨ testBlocks toks = [] := by
  induction h with
  | nil => intro N _; exact .inl rfl
  | line cs li l rest toks _ _ _ ih =>
    intro N hN
    exact ih N (by simp at hN; omega)
  | front li body rest toks _ _ ih =>
    intro N hN
    simp only [List.length_cons, List.length_append] at hN
    rcases ih N (by omega) with hc | hn
    · left
      simp only [frontClosed, number_length, Bool.and_eq_true, decide_eq_true_eq]
      exact ⟨by omega, (show li + body.length + 2 = li + 1 + body.length + 1 by omega) ▸ hc⟩
    · exact .inr hn
  | frontOpen => intro N _; exact .inr rfl
  | verb cs li opener bt language config body closer rest toks _ _ _ _ hrest _ =>
    intro N _
    rw [frontClosed_verbatim]
    exact .inl (frontClosed_of_noFrontTok N _ _ (scan_noFront hrest rfl))
  | test cs li opener bt language config body closer rest toks comments code _ _ _ _ _ _ hrest _ =>
    intro N _
    rw [frontClosed_test]
    exact .inl (frontClosed_of_noFrontTok N _ _ (scan_noFront hrest rfl))

theorem frontClosed_or_no_tests (L : List Line) (src : List Line) :
    frontClosed src.length 0 (runP L .top false 0 src) = true ∨ testBlocks (runP L .top false 0 src) = [] :=
  scan_frontClosed_or_no_tests (scan_top L _ _ (Nat.le_refl _) false 0) _ (by simp)
end Scrut.UpdateRun
