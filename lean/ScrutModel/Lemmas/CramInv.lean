import ScrutModel.Lemmas.Cram
/-! Invariants of the Cram parser loop that hold for **every** document (no well-formedness):
where the texts of commands and expectations come from, the per-test configuration, and that no
expectation has the form of an exit code line. -/
namespace Scrut.Cram
open Scrut.LineParser

/-- `x` is the text after the indentation of a non-comment line of `L` -/
def FromBody (L : List (List Char)) (ind : List Char) (x : List Char) : Prop :=
  ∃ line ∈ L, isComment line = false ∧ stripPrefix ind line = some x

/-- `l` is a command line: the text after `$ ` or `> ` of an indented non-comment line -/
def FromCmd (L : List (List Char)) (ind : List Char) (l : List Char) : Prop :=
  FromBody L ind ('$' :: ' ' :: l) ∨ FromBody L ind ('>' :: ' ' :: l)

/-- a finished test carries the Cram configuration, and its texts stem from lines of `L` -/
def TestGood (L : List (List Char)) (ind : List Char) (t : Test) : Prop :=
  t.config = some TCConfig.defaultCram ∧ (∀ l ∈ t.command, FromCmd L ind l) ∧
    (∀ e ∈ t.expectations, FromBody L ind e)

/-- the same of the test being collected (`command`, `expectations`; its configuration once a command
is open) and of the finished tests -/
def Good (L : List (List Char)) (ind : List Char) (s : St) : Prop :=
  (∀ l ∈ s.command, FromCmd L ind l) ∧ (∀ e ∈ s.expectations, FromBody L ind e) ∧
    (∀ t ∈ s.testcases, TestGood L ind t) ∧ (s.command ≠ [] → s.config = some TCConfig.defaultCram)

variable {L : List (List Char)} {ind : List Char}

theorem endTestcase_good {s s' : St} {i : Nat} (h : Good L ind s) (he : s.endTestcase i = .ok s') :
    Good L ind s' ∧ s'.command = [] := by
  obtain ⟨hc, hx, ht, hk⟩ := h
  rcases endTestcase_ok he with ⟨hemp, rfl⟩ | ⟨hne, rfl⟩
  · exact ⟨⟨hc, hx, ht, hk⟩, hemp⟩
  · refine ⟨⟨nofun, nofun, fun t htm => ?_, fun h => absurd rfl h⟩, rfl⟩
    rcases List.mem_append.mp htm with htm | htm
    · exact ht t htm
    · cases List.mem_singleton.mp htm
      exact ⟨hk hne, hc, hx⟩

/-- a body line and the `set_testcase_config` that follows it -/
theorem addBody_good (expOk : List Char → Bool) {s s' : St} {body : List Char} {i : Nat} {ct : CodeType}
    (h : Good L ind s) (hb : FromBody L ind body) (he : s.addBody expOk body i = .ok (s', ct)) :
    Good L ind (s'.setConfig TCConfig.defaultCram) := by
  have snoc : ∀ {P : List Char → Prop} {xs : List (List Char)} {x : List Char},
      (∀ y ∈ xs, P y) → P x → ∀ y ∈ xs ++ [x], P y := by
    intro P xs x h1 h2 y hy
    rcases List.mem_append.mp hy with hy | hy
    · exact h1 y hy
    · cases List.mem_singleton.mp hy; exact h2
  rcases addBody_ok expOk he with
    ⟨l, s1, hl, _, hs1, rfl⟩ | ⟨_, _, ⟨l, _, hl, _, rfl⟩ | ⟨_, ⟨c, _, _, _, rfl⟩ | ⟨_, _, _, rfl⟩⟩⟩
  · have hcl : FromCmd L ind l := .inl (by cases stripPrefix_eq_some hl; exact hb)
    have h1 : Good L ind s1 := by
      rcases hs1 with ⟨_, rfl⟩ | ⟨_, hs1⟩
      · exact h
      · exact (endTestcase_good (s := { s with inCommand := true }) h hs1).1
    exact ⟨snoc h1.1 hcl, h1.2.1, h1.2.2.1, fun _ => rfl⟩
  · have hcl : FromCmd L ind l := .inr (by cases stripPrefix_eq_some hl; exact hb)
    exact ⟨snoc h.1 hcl, h.2.1, h.2.2.1, fun _ => rfl⟩
  · exact ⟨h.1, h.2.1, h.2.2.1, fun _ => rfl⟩
  · exact ⟨h.1, snoc h.2.1 hb, h.2.2.1, fun _ => rfl⟩

theorem step_good (expOk : List Char → Bool) {s s' : St} {line : List Char} {i : Nat}
    (h : Good L ind s) (hm : line ∈ L) (he : step expOk ind s i line = .ok s') : Good L ind s' := by
  rcases step_ok he with ⟨_, rfl⟩ | ⟨hnc, ⟨_, ⟨_, rfl⟩ | ⟨_, he⟩⟩ | ⟨_, ⟨body, s1, ct, hbody, hs1, rfl⟩ | ⟨_, s1, hs1, rfl⟩⟩⟩
  · exact h
  · exact h
  · exact (endTestcase_good h he).1
  · exact addBody_good expOk h ⟨line, hm, hnc, hbody⟩ hs1
  · obtain ⟨g, hc⟩ := endTestcase_good h hs1
    exact ⟨g.1, g.2.1, g.2.2.1, fun hne => absurd hc hne⟩

theorem finish_good {s s' : St} {n : Nat} (h : Good L ind s) (he : finish s n = .ok s') : Good L ind s' := by
  rcases finish_ok he with ⟨_, rfl⟩ | he
  · exact h
  · exact (endTestcase_good (s := s.setConfig TCConfig.defaultCram) ⟨h.1, h.2.1, h.2.2.1, fun _ => rfl⟩ he).1

theorem parseLines_good (expOk : List Char → Bool) (ind : List Char) (ls : List (List Char)) (ts : List Test)
    (h : parseLines expOk ind ls = .ok ts) : ∀ t ∈ ts, TestGood ls ind t := by
  have g0 : Good ls ind (State.new true) := by
    refine ⟨?_, ?_, ?_, fun h => absurd rfl h⟩ <;> intro _ h <;> cases h
  obtain ⟨s, g, rfl⟩ := parseLines_preserves (Good ls ind) ls g0
    (fun _ _ _ _ hm g => step_good expOk g hm) (fun _ _ _ => finish_good) h
  exact g.2.2.1

theorem step_noExitForm (expOk : List Char → Bool) (ind : List Char) {s s' : St} {i : Nat} {l : List Char}
    (h : NoExitForm s) (he : step expOk ind s i l = .ok s') : NoExitForm s' := by
  rcases step_ok he with ⟨_, rfl⟩ | ⟨_, ⟨_, ⟨_, rfl⟩ | ⟨_, he⟩⟩ | ⟨_, ⟨body, s1, ct, _, hs1, rfl⟩ | ⟨_, s1, hs1, rfl⟩⟩⟩
  · exact h
  · exact h
  · exact h.endTestcase he
  · exact (h.addBody expOk hs1).setConfig _
  · exact (h.endTestcase hs1).setTitle _

theorem parseLines_noExitForm (expOk : List Char → Bool) (ind : List Char) (ls : List (List Char))
    {ts : List Test} (he : parseLines expOk ind ls = .ok ts) :
    ∀ t ∈ ts, ∀ e ∈ t.expectations, isExitCodeForm e = false := by
  obtain ⟨s, h, rfl⟩ := parseLines_preserves NoExitForm ls (NoExitForm.new true)
    (fun _ _ _ _ _ h => step_noExitForm expOk ind h)
    (fun s _ _ h he => by
      rcases finish_ok he with ⟨_, rfl⟩ | he
      · exact h
      · exact (h.setConfig _).endTestcase he) he
  exact h.2

end Scrut.Cram
