import ScrutModel.Lemmas.Basic
import ScrutModel.Lemmas.UpdateRunParses
/-!
# Concrete documents for the theorems about the integrated model of `scrut update`

Witnesses of the statements that are false without their guards (and of the guards that cannot be
dropped), and one ordinary document on which every guard holds (non-vacuity).  Everything is
evaluated by the kernel at the level of `updateDocument`: parser, preparation, matcher and generators.
Where a statement speaks of every `isOther`, the document passes and `updateDocument_allPass` brings
it down to one evaluation.
-/
namespace Scrut.UpdateRun.Witness
open Scrut Scrut.TestRun Scrut.UpdateRun Scrut.Markdown Scrut.EscLemmas

/-- `char::is_other()` on ASCII (the control characters), nothing else -/
def ctrl (c : Char) : Bool := c.toNat < 0x20 || c.toNat = 0x7f

theorem ctrl_contract : AsciiContract ctrl := by
  intro c _
  simp [ctrl]

/-- the configuration every test of a Markdown document without inline configuration gets -/
def cfgMd : Yaml.Cfg := { outputStream := some .stdout, skipCode := some 80 }

/-! ## a passing document whose last line has no line feed is written -/

/-- ```scrut / $ x / a / ``` without final line feed -/
def docNoLf : List Char := ['`', '`', '`', 's', 'c', 'r', 'u', 't', '\n', '$', ' ', 'x', '\n', 'a', '\n', '`', '`', '`']
/-- the command prints `a` and ends in 0 -/
def runA : Ran := ⟨[97, 10], [], 0⟩

/-- `docNoLf` with its final line feed -/
def docLf : List Char := docNoLf ++ ['\n']

theorem allPass_lf : AllPass docLf [runA] := allPass_of_allPassB (by decide +kernel)
theorem settled_lf : Settled docLf := by decide +kernel
theorem noLf_not_settled : ¬ Settled docNoLf := by decide +kernel

/-! ## an expectation line `> a` behind the exit code line stays behind it (fix cfef990)

Before the fix the passing test `$ x` / `[1]` / `> a` was rewritten to `$ x` / `> a` / `[1]`, whose command is
`x⏎a` (finding `C10:expectation-read-as-continuation`). -/

/-- ```scrut / $ x / [1] / > a / ``` -/
def docCont : List Char := ['`', '`', '`', 's', 'c', 'r', 'u', 't', '\n', '$', ' ', 'x', '\n', '[', '1', ']', '\n', '>', ' ', 'a', '\n', '`', '`', '`', '\n']
def utCont : UTest := ⟨⟨cfgMd, [⟨.equal [62, 32, 97], false, false⟩], some 1⟩, ['x'], [['>', ' ', 'a']]⟩
/-- the command prints `> a` and ends in 1 -/
def runCont : Ran := ⟨[62, 32, 97, 10], [], 1⟩

/-- ```scrut / $ x / [0] / > a / ```: the exit code line that keeps `> a` apart from the command is written
also for 0 -/
def docCont0 : List Char := ['`', '`', '`', 's', 'c', 'r', 'u', 't', '\n', '$', ' ', 'x', '\n', '[', '0', ']', '\n', '>', ' ', 'a', '\n', '`', '`', '`', '\n']
def runCont0 : Ran := ⟨[62, 32, 97, 10], [], 0⟩

/-! ## a command that ends in an empty continuation line `> ` keeps it (fix 961e96b)

Before the fix `$ x` / `> ` (the command `x⏎`) was written back as `$ x` (finding
`C10:trailing-empty-continuation-dropped`). -/

/-- ```scrut / $ x / > / b / ``` (the command is `x⏎`) -/
def docTrail : List Char := ['`', '`', '`', 's', 'c', 'r', 'u', 't', '\n', '$', ' ', 'x', '\n', '>', ' ', '\n', 'b', '\n', '`', '`', '`', '\n']
/-- what `update` writes for the output `a`: ```scrut / $ x / > / a / ``` -/
def docTrailOut : List Char := ['`', '`', '`', 's', 'c', 'r', 'u', 't', '\n', '$', ' ', 'x', '\n', '>', ' ', '\n', 'a', '\n', '`', '`', '`', '\n']

/-! ## a command line that ends in a stray carriage return loses it

The one way left in which `update` changes a command: `str::lines()` strips one carriage return in front of the
line feed, so the command line `$ x⏎` written for the command `x␍` reads back as `x` (root cause of the open
findings `C10:stray-carriage-return-dropped` / `C10:not-idempotent-stray-carriage-return`). -/

/-- ```scrut / $ x␍␍ / a / ``` (the command is `x␍`) -/
def docCrCmd : List Char := ['`', '`', '`', 's', 'c', 'r', 'u', 't', '\n', '$', ' ', 'x', '\r', '\r', '\n', 'a', '\n', '`', '`', '`', '\n']
/-- what `update` writes: ```scrut / $ x␍ / a / ``` -/
def docCrCmdOut : List Char := ['`', '`', '`', 's', 'c', 'r', 'u', 't', '\n', '$', ' ', 'x', '\r', '\n', 'a', '\n', '`', '`', '`', '\n']

/-! ## an ordinary document: every guard holds -/

/-- `# T` / (blank) / ```scrut / $ x / old / ``` / end -/
def docOrd : List Char := ['#', ' ', 'T', '\n', '\n', '`', '`', '`', 's', 'c', 'r', 'u', 't', '\n', '$', ' ', 'x', '\n', 'o', 'l', 'd', '\n', '`', '`', '`', '\n', 'e', 'n', 'd', '\n']
/-- what `update` writes for the output `new` -/
def docOrdOut : List Char := ['#', ' ', 'T', '\n', '\n', '`', '`', '`', 's', 'c', 'r', 'u', 't', '\n', '$', ' ', 'x', '\n', 'n', 'e', 'w', '\n', '`', '`', '`', '\n', 'e', 'n', 'd', '\n']
def utOld : UTest := ⟨⟨cfgMd, [⟨.equal [111, 108, 100], false, false⟩], none⟩, ['x'], [['o', 'l', 'd']]⟩
/-- the command prints `new` and ends in 0 -/
def runNew : Ran := ⟨[110, 101, 119, 10], [], 0⟩
def parsedOrd : Parsed :=
  { docConfigs := []
    tests := [{ title := ['T'], command := [['x']], exitCode := none, expectations := [['o', 'l', 'd']],
                lineNumber := 4, config := some none }] }

theorem parse_ord : parseMarkdown parseEnv docOrd = .ok parsedOrd := by decide +kernel

theorem ord_written :
    updateDocument ctrl docOrd [runNew] = .updated docOrdOut [.malformed [.unmatched 0, .unexpected [0]]] := by
  decide +kernel

theorem ord_noStrayCR : NoStrayCR docOrd := by decide +kernel
theorem ord_frontClosed : FrontClosed docOrd := by decide +kernel
theorem ord_codes : ∀ r ∈ [runNew], 0 ≤ r.code ∧ r.code ≤ 255 := by decide +kernel

theorem ord_quantFree : QuantFree docOrd [.malformed [.unmatched 0, .unexpected [0]]] :=
  quantFree_of_unquantified (by decide +kernel)

theorem ord_sameTexts : docGens ctrl docOrdOut [runNew] = docGens ctrl docOrd [runNew] := by decide +kernel

theorem ord_sameConfigs : SameConfigs docOrd docOrdOut := sameConfigs_of_cfgs (by decide +kernel)

/-! ## white space in front of an inline configuration that is not a YAML blank is kept (fix 15b47d2)

`update` used to write the configuration text with `trim_start()`, which drops Unicode `White_Space`; the YAML
parser skips spaces and tabs only.  In `{<U+00A0>output_stream: stderr}` the key is `<U+00A0>output_stream`, an
unknown field, which serde ignores: the test validates STDOUT.  `update` wrote `{output_stream: stderr}`: the test
then validated STDERR, failed, and the next `update` rewrote its expectations
(finding `C10:config-leading-white-space-changes-configuration`, confirmed on the binary, repaired by fix
15b47d2: `trim_start_matches([' ', '\t'])`, `Update.blankStart`).  Now the no-break space stays. -/

/-- the configuration text `<U+00A0>output_stream: stderr` -/
def cfgNbsp : List Char := ['\u00a0', 'o', 'u', 't', 'p', 'u', 't', '_', 's', 't', 'r', 'e', 'a', 'm', ':', ' ', 's', 't', 'd', 'e', 'r', 'r']
/-- ```scrut {<U+00A0>output_stream: stderr} / $ x / a / ``` -/
def docNbsp : List Char := ['`', '`', '`', 's', 'c', 'r', 'u', 't', ' ', '{', '\u00a0', 'o', 'u', 't', 'p', 'u', 't', '_', 's', 't', 'r', 'e', 'a', 'm', ':', ' ', 's', 't', 'd', 'e', 'r', 'r', '}', '\n', '$', ' ', 'x', '\n', 'a', '\n', '`', '`', '`', '\n']
/-- ```scrut {<U+00A0>output_stream: stderr} / $ x / b / ```: `docNbsp` updated on a run that prints `b` -/
def docNbspB : List Char := ['`', '`', '`', 's', 'c', 'r', 'u', 't', ' ', '{', '\u00a0', 'o', 'u', 't', 'p', 'u', 't', '_', 's', 't', 'r', 'e', 'a', 'm', ':', ' ', 's', 't', 'd', 'e', 'r', 'r', '}', '\n', '$', ' ', 'x', '\n', 'b', '\n', '`', '`', '`', '\n']
/-- a blank in front of the no-break space: ```scrut { <U+00A0>output_stream: stderr} / $ x / a / ``` -/
def docSpNbsp : List Char := ['`', '`', '`', 's', 'c', 'r', 'u', 't', ' ', '{', ' ', '\u00a0', 'o', 'u', 't', 'p', 'u', 't', '_', 's', 't', 'r', 'e', 'a', 'm', ':', ' ', 's', 't', 'd', 'e', 'r', 'r', '}', '\n', '$', ' ', 'x', '\n', 'a', '\n', '`', '`', '`', '\n']
/-- what `update` wrote for `docNbsp` UNTIL fix 15b47d2: ```scrut {output_stream: stderr} / $ x / a / ``` -/
def docNbspOut : List Char := ['`', '`', '`', 's', 'c', 'r', 'u', 't', ' ', '{', 'o', 'u', 't', 'p', 'u', 't', '_', 's', 't', 'r', 'e', 'a', 'm', ':', ' ', 's', 't', 'd', 'e', 'r', 'r', '}', '\n', '$', ' ', 'x', '\n', 'a', '\n', '`', '`', '`', '\n']
/-- what the next `update` wrote then: ```scrut {output_stream: stderr} / $ x / b / ``` -/
def docNbspOut2 : List Char := ['`', '`', '`', 's', 'c', 'r', 'u', 't', ' ', '{', 'o', 'u', 't', 'p', 'u', 't', '_', 's', 't', 'r', 'e', 'a', 'm', ':', ' ', 's', 't', 'd', 'e', 'r', 'r', '}', '\n', '$', ' ', 'x', '\n', 'b', '\n', '`', '`', '`', '\n']
/-- the same block with an ordinary space behind the brace: ```scrut { output_stream: stderr} / $ x / a / ``` -/
def docSp : List Char := ['`', '`', '`', 's', 'c', 'r', 'u', 't', ' ', '{', ' ', 'o', 'u', 't', 'p', 'u', 't', '_', 's', 't', 'r', 'e', 'a', 'm', ':', ' ', 's', 't', 'd', 'e', 'r', 'r', '}', '\n', '$', ' ', 'x', '\n', 'a', '\n', '`', '`', '`', '\n']
/-- the command prints `a` to STDOUT, `b` to STDERR and ends in 0 -/
def runAB : Ran := ⟨[97, 10], [98, 10], 0⟩
/-- the command prints `b` to STDOUT, `a` to STDERR and ends in 0 -/
def runBA : Ran := ⟨[98, 10], [97, 10], 0⟩

theorem parse_sp : (parseMarkdown parseEnv docSp).toOption.isSome = true := by decide +kernel
theorem parse_nbsp : (parseMarkdown parseEnv docNbsp).toOption.isSome = true := by decide +kernel

theorem allPass_spNbsp : AllPass docSpNbsp [runAB] := allPass_of_allPassB (by decide +kernel)

/-- on a run that prints `b` to STDOUT the document fails and is written: the fence line is the same, no-break
space included, the expectation is `b` (STDOUT, as before) -/
theorem nbsp_rewritten :
    updateDocument ctrl docNbsp [runBA] = .updated docNbspB [.malformed [.unmatched 0, .unexpected [0]]] := by
  decide +kernel

theorem nbsp_noStrayCR : NoStrayCR docNbsp := by decide +kernel
theorem nbsp_codes : ∀ r ∈ [runBA], 0 ≤ r.code ∧ r.code ≤ 255 := by decide +kernel

theorem nbsp_quantFree : QuantFree docNbsp [.malformed [.unmatched 0, .unexpected [0]]] :=
  quantFree_of_unquantified (by decide +kernel)

/-- `format!(" {{{}}}", config_text.trim_start())`: the configuration suffix as it was written until fix 15b47d2 -/
def configSuffixOld (cfg : Markdown.Numbered) : List Char :=
  let text := Markdown.joinNumbered cfg
  if (trim text).isEmpty then [] else ' ' :: '{' :: (trimStart text ++ ['}'])

/-- the same document with an ordinary space: a configuration whose leading blank `update` drops -/
theorem sp_written :
    updateDocument ctrl docSp [runAB] = .updated docNbspOut2 [.malformed [.unmatched 0, .unexpected [0]]] := by
  decide +kernel

theorem sp_noStrayCR : NoStrayCR docSp := by decide +kernel
theorem sp_codes : ∀ r ∈ [runAB], 0 ≤ r.code ∧ r.code ≤ 255 := by decide +kernel

theorem sp_quantFree : QuantFree docSp [.malformed [.unmatched 0, .unexpected [0]]] :=
  quantFree_of_unquantified (by decide +kernel)

end Scrut.UpdateRun.Witness
