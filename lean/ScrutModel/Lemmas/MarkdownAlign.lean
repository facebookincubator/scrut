import ScrutModel.Lemmas.Basic
import ScrutModel.Lemmas.MarkdownWF
/-!
# Every parsed test comes from one scrut block with code, in order (parser ↔ tokenizer alignment)

Whatever the document, if `MarkdownParser::parse` succeeds then its tests are, in order, the readings of the
test tokens that hold code, and each of these blocks has the shape `$ c0`, `> more…`, expectation / exit code
lines.
-/

namespace Scrut.Markdown
open Scrut.LineParser

/-- the configuration a test token hands to the line parser -/
def cfgOf (cfg : Numbered) : Cfg := if cfg.isEmpty then none else some (joinNumbered cfg)

/-- how the code lines of a block are read into a test -/
def BlockOf (expOk : Line → Bool) (cfg : Numbered) (code : List Line) (t : TestCase Cfg) : Prop :=
  ∃ c0 more after, code = ('$' :: ' ' :: c0) :: (more.map contLine ++ after) ∧ NotCont after ∧
    t.command = c0 :: more ∧ t.expectations = expLines after ∧ t.exitCode = (exitCodes after).head? ∧
    (exitCodes after).length ≤ 1 ∧ (∀ e ∈ expLines after, expOk e = true ∧ isExitCodeForm e = false) ∧ t.config = some (cfgOf cfg)

theorem BlockOf.config {expOk : Line → Bool} {cfg : Numbered} {code : List Line} {t : TestCase Cfg}
    (h : BlockOf expOk cfg code t) : t.config = some (cfgOf cfg) := by
  obtain ⟨_, _, _, _, _, _, _, _, _, _, h⟩ := h
  exact h

/-- the scrut blocks that hold a test (code lines), in order: configuration lines and code texts -/
def testBlocks : List Tok → List (Numbered × List Line)
  | [] => []
  | .test _ cfg _ code :: r =>
    if code.isEmpty then testBlocks r else (cfg, code.map (·.2)) :: testBlocks r
  | .line _ _ :: r => testBlocks r
  | .docConfig _ :: r => testBlocks r
  | .verbatim _ _ _ :: r => testBlocks r

/-- the front-matter texts, in order -/
def frontTexts : List Tok → List Line
  | [] => []
  | .docConfig ls :: r => joinNumbered ls :: frontTexts r
  | .test _ _ _ _ :: r => frontTexts r
  | .line _ _ :: r => frontTexts r
  | .verbatim _ _ _ :: r => frontTexts r

theorem testCfg_eq (env : Env) (cfg : Numbered) :
    (if cfg.isEmpty then (.ok none : Except Err Cfg) else
      if env.testCfgOk (joinNumbered cfg) then .ok (some (joinNumbered cfg)) else .error .testConfigYaml) =
    if cfg.isEmpty = true ∨ env.testCfgOk (joinNumbered cfg) = true then .ok (cfgOf cfg) else .error .testConfigYaml := by
  unfold cfgOf
  by_cases he : cfg.isEmpty = true
  · simp [he]
  · by_cases ht : env.testCfgOk (joinNumbered cfg) = true <;> simp [he, ht]
theorem stepTok_inv (env : Env) (st st' : PState) (hc : Clean st.lp) (t : Tok) (h : stepTok env st t = .ok st') :
    Clean st'.lp ∧ st'.docConfigs = st.docConfigs ++ frontTexts [t] ∧
    ∃ new, st'.lp.testcases = st.lp.testcases ++ new ∧
      Pairs (fun b tc => BlockOf env.expOk b.1 b.2 tc) (testBlocks [t]) new := by
  cases t with
  | line i l =>
    simp only [stepTok] at h
    split at h
    · cases h
      exact ⟨hc.setTitle _, by simp [frontTexts], [], by simp [State.setTitle], .nil⟩
    · cases h
      exact ⟨hc, by simp [frontTexts], [], by simp, .nil⟩
  | docConfig ls =>
    simp only [stepTok] at h
    split at h
    · cases h
      exact ⟨hc, by simp [frontTexts], [], by simp, .nil⟩
    · cases h
  | verbatim start lang ls =>
    simp only [stepTok] at h
    split at h
    · cases h
    · cases h
      exact ⟨hc, by simp [frontTexts], [], by simp, .nil⟩
  | test lang cfg cm code =>
    have hclean : ∀ c, Clean (st.lp.setConfig c) := fun c => hc.setConfig c
    simp only [stepTok, testCfg_eq] at h
    by_cases hcfg : cfg.isEmpty = true ∨ env.testCfgOk (joinNumbered cfg) = true
    · simp only [hcfg, if_true] at h
      cases code with
      | nil =>
        cases h
        exact ⟨hclean _, by simp [frontTexts], [], by simp [State.setConfig], .nil⟩
      | cons x rest =>
        cases hlp : addAll env.expOk (st.lp.setConfig (cfgOf cfg)) (x :: rest) with
        | error e => simp [hlp] at h
        | ok lp =>
          obtain ⟨c0, more, after, hcode, hn, hexp, hcodes, hs⟩ :=
            (addAll_block_iff env.expOk x.1 x.2 rest _ lp (hclean _)).mp hlp
          have hne : lp.command ≠ [] := by rw [hs]; simp [belowState]
          cases hl : (x :: rest).getLast? with
          | none => simp at hl
          | some li =>
            simp only [hlp, hl, endTestcase_push li.1 hne] at h
            cases h
            subst hs
            refine ⟨⟨rfl, rfl, rfl, rfl, hc.amc⟩, by simp [frontTexts], [_], rfl, ?_⟩
            refine .cons ⟨c0, more, after, hcode, hn, ?_, ?_, ?_, hcodes, hexp, ?_⟩ .nil
            -- command, expectations, exit code, configuration of the pushed test: read off `belowState`
            all_goals simp [State.pending, belowState, hc.exps, hc.code, State.setConfig]
    · simp only [hcfg, if_false, reduceCtorEq] at h

theorem testBlocks_cons (t : Tok) (r : List Tok) : testBlocks (t :: r) = testBlocks [t] ++ testBlocks r := by
  cases t <;> simp [testBlocks]
  split <;> simp

theorem frontTexts_cons (t : Tok) (r : List Tok) : frontTexts (t :: r) = frontTexts [t] ++ frontTexts r := by
  cases t <;> simp [frontTexts]


theorem parseTokens_inv (env : Env) :
    ∀ (toks : List Tok) (st fin : PState), Clean st.lp → parseTokens env st toks = .ok fin →
      Clean fin.lp ∧ fin.docConfigs = st.docConfigs ++ frontTexts toks ∧
      ∃ new, fin.lp.testcases = st.lp.testcases ++ new ∧
        Pairs (fun b tc => BlockOf env.expOk b.1 b.2 tc) (testBlocks toks) new
  | [], st, fin, hc, h => by
    simp only [parseTokens] at h
    cases h
    exact ⟨hc, by simp [frontTexts], [], by simp, .nil⟩
  | t :: r, st, fin, hc, h => by
    simp only [parseTokens] at h
    split at h
    · cases h
    · rename_i st1 h1
      obtain ⟨c1, d1, n1, t1, f1⟩ := stepTok_inv env st st1 hc t h1
      obtain ⟨c2, d2, n2, t2, f2⟩ := parseTokens_inv env r st1 fin c1 h
      refine ⟨c2, ?_, n1 ++ n2, ?_, ?_⟩
      · rw [d2, d1, frontTexts_cons t r, List.append_assoc]
      · rw [t2, t1, List.append_assoc]
      · rw [testBlocks_cons t r]
        exact pairs_append f1 f2

theorem parseLines_inv (env : Env) (lines : List Line) (p : Parsed) (h : parseLines env lines = .ok p) :
    p.docConfigs = frontTexts (runP env.languages .top false 0 lines) ∧
    Pairs (fun b tc => BlockOf env.expOk b.1 b.2 tc) (testBlocks (runP env.languages .top false 0 lines)) p.tests := by
  unfold parseLines at h
  rw [tokenize_eq] at h
  simp only at h
  split at h
  · cases h
  · rename_i st hst
    cases h
    obtain ⟨_, d, n, t, f⟩ := parseTokens_inv env _ {} st ⟨rfl, rfl, rfl, rfl, rfl⟩ hst
    refine ⟨by simpa using d, ?_⟩
    have : st.lp.testcases = n := by simpa [State.new] using t
    rw [this]; exact f

end Scrut.Markdown
