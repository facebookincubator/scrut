import ScrutModel.Model.StripAnsi
/-!
# `strip_ansi_sequences_bytes`: only escape sequences go, nothing is added, reordered or changed
-/
namespace Scrut.StripAnsi

theorem dropOne_suffix (p : UInt8 → Bool) (l : List UInt8) : dropOne p l <:+ l := by
  cases l with
  | nil => exact List.suffix_refl _
  | cons b r =>
    simp only [dropOne]
    split
    · exact List.suffix_cons b r
    · exact List.suffix_refl _

theorem skipString_suffix : ∀ l : List UInt8, skipString l <:+ l
  | [] => List.suffix_refl _
  | b :: r => by
    simp only [skipString]
    split
    · exact List.suffix_cons b r
    · split
      · rename_i r' _
        exact (List.suffix_cons _ r').trans (List.suffix_cons _ _)
      · exact (skipString_suffix r).trans (List.suffix_cons b r)

theorem afterEsc_suffix (l : List UInt8) : afterEsc l <:+ l := by
  cases l with
  | nil => exact List.suffix_refl _
  | cons b r =>
    simp only [afterEsc]
    split
    · exact (dropOne_suffix _ _).trans (((List.dropWhile_suffix _).trans (List.dropWhile_suffix _)).trans
        (List.suffix_cons b r))
    · split
      · exact (skipString_suffix r).trans (List.suffix_cons b r)
      · exact (dropOne_suffix _ _).trans (List.dropWhile_suffix _)

theorem stripFuel_sublist : ∀ (n : Nat) (l : List UInt8), (stripFuel n l).Sublist l
  | 0, l => by simp [stripFuel]
  | n + 1, [] => by simp [stripFuel]
  | n + 1, b :: r => by
    unfold stripFuel
    split
    · exact ((stripFuel_sublist n (afterEsc r)).trans (afterEsc_suffix r).sublist).trans
        (List.sublist_cons_self b r)
    · exact (stripFuel_sublist n r).cons_cons b

theorem esc_not_mem_stripFuel : ∀ (n : Nat) (l : List UInt8), esc ∉ stripFuel n l
  | 0, l => by simp [stripFuel]
  | n + 1, [] => by simp [stripFuel]
  | n + 1, b :: r => by
    unfold stripFuel
    split
    · exact esc_not_mem_stripFuel n (afterEsc r)
    · rename_i hb
      intro h
      rcases List.mem_cons.mp h with h | h
      · exact hb h.symm
      · exact esc_not_mem_stripFuel n r h

theorem stripFuel_no_esc : ∀ (n : Nat) (l : List UInt8), esc ∉ l → l.length ≤ n → stripFuel n l = l
  | 0, l, _, hn => by
    have : l = [] := List.length_eq_zero_iff.mp (Nat.le_zero.mp hn)
    subst this; rfl
  | n + 1, [], _, _ => rfl
  | n + 1, b :: r, h, hn => by
    have hb : b ≠ esc := fun e => h (by simp [e])
    have hr : esc ∉ r := fun e => h (by simp [e])
    simp only [stripFuel, hb, if_false]
    rw [stripFuel_no_esc n r hr (by simpa using hn)]

/-- `afterEsc` never returns more than it got: any two amounts of fuel that cover the bytes give the
same result -/
theorem stripFuel_irrel : ∀ (n m : Nat) (l : List UInt8), l.length ≤ n → l.length ≤ m → stripFuel n l = stripFuel m l := by
  intro n
  induction n with
  | zero =>
    intro m l hn _
    rw [List.length_eq_zero_iff.mp (Nat.le_zero.mp hn)]
    cases m <;> rfl
  | succ n ih =>
    intro m l hn hm
    cases l with
    | nil => cases m <;> rfl
    | cons b r =>
      cases m with
      | zero => simp at hm
      | succ m =>
        have hr : r.length ≤ n := by simpa using hn
        have hr' : r.length ≤ m := by simpa using hm
        have ha := (afterEsc_suffix r).length_le
        simp only [stripFuel]
        split
        · exact ih m (afterEsc r) (by omega) (by omega)
        · rw [ih m r hr hr']

theorem strip_nil : strip [] = [] := rfl

theorem strip_cons_ne {b : UInt8} (hb : b ≠ esc) (r : List UInt8) : strip (b :: r) = b :: strip r := by
  simp [strip, stripFuel, hb]

theorem strip_esc (r : List UInt8) : strip (esc :: r) = strip (afterEsc r) := by
  simp only [strip, stripFuel, List.length_cons, if_true]
  exact stripFuel_irrel _ _ (afterEsc r) (afterEsc_suffix r).length_le (Nat.le_refl _)

theorem strip_sublist (l : List UInt8) : (strip l).Sublist l := stripFuel_sublist _ l
theorem esc_not_mem_strip (l : List UInt8) : esc ∉ strip l := esc_not_mem_stripFuel _ l
theorem strip_no_esc (l : List UInt8) (h : esc ∉ l) : strip l = l := stripFuel_no_esc _ l h (Nat.le_refl _)

theorem strip_append_no_esc (pre post : List UInt8) (h : esc ∉ pre) : strip (pre ++ post) = pre ++ strip post := by
  induction pre with
  | nil => rfl
  | cons b r ih =>
    have hb : b ≠ esc := fun e => h (by simp [e])
    have hr : esc ∉ r := fun e => h (by simp [e])
    rw [List.cons_append, strip_cons_ne hb, ih hr, List.cons_append]

/-- the byte classes of a CSI sequence do not overlap where the scanner passes from one to the next -/
theorem csi_classes {f : UInt8} :
    (isCsiFinal f = true → isParam f = false ∧ isInter f = false) ∧ (isInter f = true → isParam f = false) := by
  simp only [isCsiFinal, isParam, isInter, Bool.and_eq_true, decide_eq_true_eq, Bool.and_eq_false_iff,
    decide_eq_false_iff_not]
  omega

theorem strip_csi (ps is : List UInt8) (f : UInt8) (post : List UInt8)
    (hp : ∀ x ∈ ps, isParam x = true) (hi : ∀ x ∈ is, isInter x = true) (hf : isCsiFinal f = true) :
    strip (esc :: 0x5b :: (ps ++ (is ++ f :: post))) = strip post := by
  rw [strip_esc]
  have h1 : (ps ++ (is ++ f :: post)).dropWhile isParam = is ++ f :: post := by
    rw [List.dropWhile_append_of_pos hp]
    cases is with
    | nil => simp [(csi_classes.1 hf).1]
    | cons x xs => simp [csi_classes.2 (hi x (by simp))]
  have h2 : (is ++ f :: post).dropWhile isInter = f :: post := by
    rw [List.dropWhile_append_of_pos hi]
    simp [(csi_classes.1 hf).2]
  simp only [afterEsc, if_true, h1, h2, dropOne, hf]

end Scrut.StripAnsi
