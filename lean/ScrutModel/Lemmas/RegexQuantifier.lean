import ScrutModel.Lemmas.RegexCleanup
import ScrutModel.Lemmas.Basic
/-! The clean-up passes and braces, for all inputs: a valid repetition quantifier `{n}`, `{n,m}`,
`{n,}` in a context of simple characters reaches the compiler exactly as written, every other
`{…}` gets both braces escaped. Both statements are compositional: what follows the closing brace is
arbitrary and is cleaned on its own. -/
namespace Scrut.RegexCleanup

/-- a character none of the passes looks at: no backslash, brace, bracket, and not `<` (the marker
of pass 2). `>` and the line feed are simple. -/
def simple (c : Char) : Bool :=
  c != '\\' && c != '{' && c != '}' && c != '[' && c != ']' && c != '<'

/-- what may follow the first number of a quantifier: nothing, or a comma and a possibly empty number -/
def quantTail : List Char → Bool
  | [] => true
  | c :: d2 => c == ',' && d2.all isDigit

/-- the text between the braces of a repetition quantifier: `n`, `n,m` or `n,` -/
def quantBody (q : List Char) : Bool :=
  !(q.takeWhile isDigit).isEmpty && quantTail (q.dropWhile isDigit)

theorem quantBody_span {d a : List Char} (hd : d.all isDigit = true)
    (ha : ∀ x ∈ a.head?, isDigit x = false) :
    quantBody (d ++ a) = (!d.isEmpty && quantTail a) := by
  rw [quantBody, (span_eq hd ha).1, (span_eq hd ha).2]

/-- after a `{`, with the next `}` after `b`: the regex `[0-9]+(?:,[0-9]*)?` followed by `}`
matches exactly when `b` is a quantifier body, and then captures all of `b` -/
theorem matchQuant_close (b rest : List Char) (hb : '}' ∉ b) :
    matchQuant (b ++ '}' :: rest) = if quantBody b = true then some b else none := by
  obtain ⟨d, a, rfl, hd, ha⟩ := span_exists isDigit b
  have ha' : ∀ x ∈ (a ++ '}' :: rest).head?, isDigit x = false := by
    cases a with
    | nil => simp; decide
    | cons x a' => simpa using ha
  rw [quantBody_span hd ha, matchQuant, List.append_assoc, (span_eq hd ha').1, (span_eq hd ha').2]
  cases a with
  | nil => cases d <;> simp [quantTail]
  | cons x a' =>
    have hx : x ≠ '}' := fun e => hb (by simp [e])
    by_cases hc : x = ','
    · subst hc
      obtain ⟨d2, a2, rfl, hd2, ha2⟩ := span_exists isDigit a'
      have ha2' : ∀ x ∈ (a2 ++ '}' :: rest).head?, isDigit x = false := by
        cases a2 with
        | nil => simp; decide
        | cons y a2' => simpa using ha2
      simp only [List.cons_append, List.append_assoc, (span_eq hd2 ha2').1, (span_eq hd2 ha2').2, quantTail]
      cases a2 with
      | nil => cases d <;> simp [hd2]
      | cons y a2' =>
        have hy : y ≠ '}' := fun e => hb (by simp [e])
        have hyd : isDigit y = false := ha2 y rfl
        cases d <;> simp [hy, hyd]
    · cases d <;> simp [quantTail, hx, hc]

theorem quantTail_head {t : List Char} (ht : quantTail t = true) : ∀ x ∈ t.head?, isDigit x = false := by
  cases t with
  | nil => simp
  | cons c d2 =>
    simp only [quantTail, Bool.and_eq_true, beq_iff_eq] at ht
    simp [ht.1]; decide

theorem quantBody_iff (q : List Char) :
    quantBody q = true ↔
      ∃ d1 tail, q = d1 ++ tail ∧ d1 ≠ [] ∧ d1.all isDigit = true ∧ quantTail tail = true := by
  constructor
  · intro h
    obtain ⟨d, a, rfl, hd, ha⟩ := span_exists isDigit q
    rw [quantBody_span hd ha, Bool.and_eq_true, Bool.not_eq_true', List.isEmpty_eq_false_iff] at h
    exact ⟨d, a, rfl, h.1, hd, h.2⟩
  · rintro ⟨d1, tail, rfl, h1, hd, ht⟩
    rw [quantBody_span hd (quantTail_head ht), ht, Bool.and_true, Bool.not_eq_true', List.isEmpty_eq_false_iff]
    exact h1

theorem quantBody_chars (q : List Char) (h : quantBody q = true) :
    q ≠ [] ∧ ∀ c ∈ q, isDigit c = true ∨ c = ',' := by
  obtain ⟨d1, tail, rfl, h1, hd, ht⟩ := (quantBody_iff q).mp h
  refine ⟨by simp [h1], fun c hc => ?_⟩
  rcases List.mem_append.mp hc with hc | hc
  · exact .inl (List.all_eq_true.mp hd c hc)
  · cases tail with
    | nil => cases hc
    | cons c0 d2 =>
      simp only [quantTail, Bool.and_eq_true, beq_iff_eq, List.all_eq_true] at ht
      rcases List.mem_cons.mp hc with rfl | hc
      · exact .inr ht.1
      · exact .inl (ht.2 c hc)

theorem simple_iff (c : Char) :
    simple c = true ↔ c ≠ '\\' ∧ c ≠ '{' ∧ c ≠ '}' ∧ c ≠ '[' ∧ c ≠ ']' ∧ c ≠ '<' := by
  simp [simple, and_assoc]

/-- digits and the comma are simple, and they are neither `>` nor a line feed (the two characters
the lazy `(.+?)>>>>` of pass 2.3 looks for) -/
theorem simple_of_digit_or_comma (c : Char) (h : isDigit c = true ∨ c = ',') :
    simple c = true ∧ c ≠ '>' ∧ c ≠ '\n' := by
  rw [simple_iff]
  refine ⟨⟨?_, ?_, ?_, ?_, ?_, ?_⟩, ?_, ?_⟩ <;> (rintro rfl; revert h; decide)

theorem copies_append {f : List Char → List Char} {p : Char → Bool}
    (hf : ∀ c rest, p c = true → f (c :: rest) = c :: f rest) (l rest : List Char)
    (h : l.all p = true) : f (l ++ rest) = l ++ f rest := by
  induction l with
  | nil => rfl
  | cons c l ih =>
    rw [List.all_cons, Bool.and_eq_true] at h
    rw [List.cons_append, hf c _ h.1, ih h.2, List.cons_append]

theorem escPass_cons (c : Char) (rest : List Char) (hc : c ≠ '\\') :
    escPass (c :: rest) false = c :: escPass rest false := by
  simp only [escPass, if_neg hc]

theorem protect_cons (c : Char) (rest : List Char) (hc : c ≠ '{') :
    protect (c :: rest) 0 = c :: protect rest 0 := by
  simp only [protect, if_neg hc]

theorem protect_skip (xs rest : List Char) : protect (xs ++ rest) xs.length = protect rest 0 := by
  induction xs with
  | nil => rfl
  | cons x xs ih => simp only [List.cons_append, List.length_cons, protect, ih]

theorem braceEsc_cons (c : Char) (rest : List Char) (h1 : c ≠ '\\') (h2 : c ≠ '{') (h3 : c ≠ '}') :
    braceEsc (c :: rest) false = c :: braceEsc rest false := by
  have h4 : ¬ (c = '{' ∨ c = '}') := by simp [h2, h3]
  simp only [braceEsc, if_neg h1, if_neg h4]

theorem restore_cons (c : Char) (rest : List Char) (hc : c ≠ '<') :
    restore (c :: rest) 0 = c :: restore rest 0 := by
  have hc' : ¬ (c = '<' ∧ rest.take 3 = ['<', '<', '<']) := fun e => hc e.1
  simp only [restore, if_neg hc']

theorem restore_skip (xs rest : List Char) : restore (xs ++ rest) xs.length = restore rest 0 := by
  induction xs with
  | nil => rfl
  | cons x xs ih => simp only [List.cons_append, List.length_cons, restore, ih]

theorem ccPass_cons (c : Char) (rest : List Char) (h1 : c ≠ '\\') (h2 : c ≠ '[') (h3 : c ≠ ']') :
    ccPass (c :: rest) false false = c :: ccPass rest false false := by
  simp only [ccPass, if_neg h1, if_neg h2, if_neg h3]

theorem escPass_simple (l rest : List Char) (h : l.all simple = true) :
    escPass (l ++ rest) false = l ++ escPass rest false :=
  copies_append (f := (escPass · false)) (fun c r hc => escPass_cons c r ((simple_iff c).mp hc).1)
    l rest h

theorem protect_simple (l rest : List Char) (h : l.all simple = true) :
    protect (l ++ rest) 0 = l ++ protect rest 0 :=
  copies_append (f := (protect · 0)) (fun c r hc => protect_cons c r ((simple_iff c).mp hc).2.1)
    l rest h

theorem braceEsc_simple (l rest : List Char) (h : l.all simple = true) :
    braceEsc (l ++ rest) false = l ++ braceEsc rest false :=
  copies_append (f := (braceEsc · false))
    (fun c r hc => have s := (simple_iff c).mp hc; braceEsc_cons c r s.1 s.2.1 s.2.2.1) l rest h

theorem restore_simple (l rest : List Char) (h : l.all simple = true) :
    restore (l ++ rest) 0 = l ++ restore rest 0 :=
  copies_append (f := (restore · 0))
    (fun c r hc => restore_cons c r ((simple_iff c).mp hc).2.2.2.2.2) l rest h

theorem ccPass_simple (l rest : List Char) (h : l.all simple = true) :
    ccPass (l ++ rest) false false = l ++ ccPass rest false false :=
  copies_append (f := (ccPass · false false))
    (fun c r hc => have s := (simple_iff c).mp hc; ccPass_cons c r s.1 s.2.2.2.1 s.2.2.2.2.1) l rest h

theorem protect_quant (q rest : List Char) (hq : quantBody q = true) :
    protect ('{' :: (q ++ '}' :: rest)) 0 =
      '<' :: '<' :: '<' :: '<' :: (q ++ '>' :: '>' :: '>' :: '>' :: protect rest 0) := by
  have hb : '}' ∉ q := fun e =>
    ((simple_iff _).mp (simple_of_digit_or_comma _ ((quantBody_chars q hq).2 _ e)).1).2.2.1 rfl
  -- the model skips `|q| + 1` characters behind the `{`: the body and the closing brace
  have hs := protect_skip (q ++ ['}']) rest
  simp only [List.append_assoc, List.cons_append, List.nil_append, List.length_append,
    List.length_cons, List.length_nil] at hs
  simp only [protect, if_true, matchQuant_close q rest hb, hq, hs, List.append_assoc,
    List.cons_append, List.nil_append]

theorem protect_nonquant (b rest : List Char) (hb : b.all simple = true) (hq : quantBody b = false) :
    protect ('{' :: (b ++ '}' :: rest)) 0 = '{' :: (b ++ '}' :: protect rest 0) := by
  have h2 : '}' ∉ b := fun e => ((simple_iff _).mp (List.all_eq_true.mp hb _ e)).2.2.1 rfl
  have hc : ('}' : Char) ≠ '{' := by decide
  simp only [protect, if_true, matchQuant_close b rest h2, hq, protect_simple b _ hb, if_neg hc,
    Bool.false_eq_true, if_false]

theorem findClose_inner (q R : List Char) (hne : q ≠ []) (h : ∀ c ∈ q, c ≠ '>' ∧ c ≠ '\n') :
    findClose (q ++ '>' :: '>' :: '>' :: '>' :: R) = some q := by
  induction q with
  | nil => exact absurd rfl hne
  | cons x q ih =>
    have hx : x ≠ '\n' := (h x (by simp)).2
    cases q with
    | nil => simp [findClose, hx]
    | cons y q =>
      have hy : y ≠ '>' := (h y (by simp)).1
      have := ih (by simp) (fun c hc => h c (by simp [hc]))
      have ht : ¬ ((y :: q ++ '>' :: '>' :: '>' :: '>' :: R).take 4 = ['>', '>', '>', '>']) := by
        simp [hy]
      rw [List.cons_append, findClose, if_neg hx, if_neg ht, this]
      rfl

theorem restore_quad (q R : List Char) (hne : q ≠ []) (h : ∀ c ∈ q, c ≠ '>' ∧ c ≠ '\n') :
    restore ('<' :: '<' :: '<' :: '<' :: (q ++ '>' :: '>' :: '>' :: '>' :: R)) 0 =
      '{' :: (q ++ '}' :: restore R 0) := by
  -- the model skips `3 + |q| + 4` characters behind the first `<`: the other three, the body, `>>>>`
  have hs := restore_skip ('<' :: '<' :: '<' :: (q ++ ['>', '>', '>', '>'])) R
  simp only [List.append_assoc, List.cons_append, List.nil_append, List.length_append,
    List.length_cons, List.length_nil] at hs
  have hs' : restore ('<' :: '<' :: '<' :: (q ++ '>' :: '>' :: '>' :: '>' :: R)) (3 + q.length + 4) =
      restore R 0 := by
    rw [show 3 + q.length + 4 = q.length + (0 + 1 + 1 + 1 + 1) + 1 + 1 + 1 from by omega]
    exact hs
  have hcnd : ('<' : Char) = '<' ∧
      ('<' :: '<' :: '<' :: (q ++ '>' :: '>' :: '>' :: '>' :: R)).take 3 = ['<', '<', '<'] :=
    ⟨rfl, rfl⟩
  rw [restore, if_pos hcnd,
    show ('<' :: '<' :: '<' :: (q ++ '>' :: '>' :: '>' :: '>' :: R)).drop 3 =
      q ++ '>' :: '>' :: '>' :: '>' :: R from rfl,
    findClose_inner q R hne h]
  simp only [hs', List.cons_append]

theorem braceEsc_brace (c : Char) (rest : List Char) (h : c = '{' ∨ c = '}') :
    braceEsc (c :: rest) false = '\\' :: c :: braceEsc rest false := by
  have h1 : c ≠ '\\' := by rcases h with h | h <;> (subst h; decide)
  simp only [braceEsc, if_neg h1, if_pos h]

theorem ccPass_bs (c : Char) (rest : List Char) :
    ccPass ('\\' :: c :: rest) false false = '\\' :: c :: ccPass rest false false := by
  simp only [ccPass, if_true]

theorem regexClean_simple_prefix (pre rest : List Char) (hpre : pre.all simple = true) :
    regexClean (pre ++ rest) = pre ++ regexClean rest := by
  unfold regexClean quantPass
  rw [escPass_simple pre _ hpre, protect_simple pre _ hpre, braceEsc_simple pre _ hpre,
    restore_simple pre _ hpre, ccPass_simple pre _ hpre]

theorem regexClean_simple (e : List Char) (h : e.all simple = true) : regexClean e = e := by
  have := regexClean_simple_prefix e [] h
  rw [List.append_nil] at this
  rw [this]
  exact List.append_nil e

theorem regexClean_quant_step (q rest : List Char) (hq : quantBody q = true) :
    regexClean ('{' :: (q ++ '}' :: rest)) = '{' :: (q ++ '}' :: regexClean rest) := by
  obtain ⟨hne, hch⟩ := quantBody_chars q hq
  have hs : q.all simple = true := List.all_eq_true.mpr fun c hc => (simple_of_digit_or_comma c (hch c hc)).1
  unfold regexClean quantPass
  rw [escPass_cons '{' _ (by decide), escPass_simple q _ hs, escPass_cons '}' _ (by decide),
    protect_quant q _ hq]
  simp only [braceEsc_cons '<' _ (by decide) (by decide) (by decide),
    braceEsc_cons '>' _ (by decide) (by decide) (by decide), braceEsc_simple q _ hs]
  rw [restore_quad q _ hne (fun c hc => (simple_of_digit_or_comma c (hch c hc)).2),
    ccPass_cons '{' _ (by decide) (by decide) (by decide), ccPass_simple q _ hs,
    ccPass_cons '}' _ (by decide) (by decide) (by decide)]

theorem regexClean_nonquant_step (b rest : List Char) (hb : b.all simple = true)
    (hq : quantBody b = false) :
    regexClean ('{' :: (b ++ '}' :: rest)) = '\\' :: '{' :: (b ++ '\\' :: '}' :: regexClean rest) := by
  unfold regexClean quantPass
  rw [escPass_cons '{' _ (by decide), escPass_simple b _ hb, escPass_cons '}' _ (by decide),
    protect_nonquant b _ hb hq,
    braceEsc_brace '{' _ (Or.inl rfl), braceEsc_simple b _ hb, braceEsc_brace '}' _ (Or.inr rfl),
    restore_cons '\\' _ (by decide), restore_cons '{' _ (by decide), restore_simple b _ hb,
    restore_cons '\\' _ (by decide), restore_cons '}' _ (by decide),
    ccPass_bs, ccPass_simple b _ hb, ccPass_bs]

/-- an expression cut into simple characters and brace pairs around simple text -/
inductive Piece where
  | chr (c : Char)
  | braces (b : List Char)

def Piece.ok : Piece → Bool
  | .chr c => simple c
  | .braces b => b.all simple

/-- as written -/
def Piece.text : Piece → List Char
  | .chr c => [c]
  | .braces b => '{' :: b ++ ['}']

/-- as compiled -/
def Piece.cleaned : Piece → List Char
  | .chr c => [c]
  | .braces b => if quantBody b = true then '{' :: b ++ ['}'] else '\\' :: '{' :: b ++ ['\\', '}']

theorem regexClean_pieces_append (ps : List Piece) (rest : List Char) (h : ps.all Piece.ok = true) :
    regexClean (ps.flatMap Piece.text ++ rest) = ps.flatMap Piece.cleaned ++ regexClean rest := by
  induction ps with
  | nil => rfl
  | cons p ps ih =>
    simp only [List.all_cons, Bool.and_eq_true] at h
    rw [List.flatMap_cons, List.flatMap_cons, List.append_assoc, List.append_assoc]
    cases p with
    | chr c =>
      have hc : [c].all simple = true := by simpa [Piece.ok] using h.1
      rw [Piece.text, Piece.cleaned, regexClean_simple_prefix [c] _ hc, ih h.2]
    | braces b =>
      have hb : b.all simple = true := h.1
      by_cases hq : quantBody b = true
      · simp only [Piece.text, Piece.cleaned, if_pos hq, List.append_assoc, List.cons_append,
          List.nil_append]
        rw [regexClean_quant_step b _ hq, ih h.2]
      · simp only [Piece.text, Piece.cleaned, if_neg hq, List.append_assoc, List.cons_append,
          List.nil_append]
        rw [regexClean_nonquant_step b _ hb (by simpa using hq), ih h.2]

theorem regexClean_pieces (ps : List Piece) (h : ps.all Piece.ok = true) :
    regexClean (ps.flatMap Piece.text) = ps.flatMap Piece.cleaned := by
  have := regexClean_pieces_append ps [] h
  rwa [List.append_nil, show regexClean [] = [] from rfl, List.append_nil] at this

end Scrut.RegexCleanup
