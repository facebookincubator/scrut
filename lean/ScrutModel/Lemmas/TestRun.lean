import ScrutModel.Model.TestRun
import ScrutModel.Lemmas.Exec
/-!
# How the pieces of `Model/TestRun.lean` are connected: the rules, the output of a completed command
and `validate` on it; the small pieces on examples.
-/
namespace Scrut.TestRun
open Scrut

theorem matches_equal (e : List Char) (line : Bytes) :
    (Rule.equal (Utf8.utf8 e)).matches line = some (Rules.equalMatches e line) := rfl

theorem matches_noEol (e : List Char) (line : Bytes) :
    (Rule.noEol (Utf8.utf8 e)).matches line = some (Rules.noEolMatches e line) := rfl

theorem matches_escaped (b line : Bytes) :
    (Rule.escaped b).matches line = some (Rules.escapedMatches b line) := rfl

theorem accepts_true_iff (exps : List CExp) (stream : Bytes) :
    accepts exps stream = some true ↔ ∃ d, diffOf exps stream = some d ∧ Diff.hasDiff d = false := by
  unfold accepts
  cases h : diffOf exps stream with
  | none => simp
  | some d => cases hd : Diff.hasDiff d <;> simp [hd]

theorem selected_of_out (t : Test) (a ao ae : Bool) (c : Int) :
    Exec.selected (t.tc a) ⟨.code c, ao, ae⟩ = (if t.cfg.outputStream = some .stderr then ae else ao) := by
  unfold Exec.selected Test.tc
  cases h : t.cfg.outputStream with
  | none => simp [streamOf]
  | some s => cases s <;> simp [streamOf]

theorem validate_tc_ok_iff (t : Test) (a ao ae : Bool) (c : Int) :
    Exec.validate (t.tc a) ⟨.code c, ao, ae⟩ = .ok ↔
      c = t.expected.getD 0 ∧ (if t.cfg.outputStream = some .stderr then ae else ao) = true := by
  rw [Exec.validate_ok_iff, ← selected_of_out t a ao ae c]
  constructor
  · rintro ⟨c', hc, hce, hsel⟩
    cases hc
    exact ⟨hce, hsel⟩
  · rintro ⟨hce, hsel⟩
    exact ⟨c, rfl, hce, hsel⟩

theorem out_inv {t : Test} {r : Ran} {o : Exec.Out} (h : t.out r = .ok o) :
    ∃ so se ao ae, record t.cfg r = some (so, se) ∧ accepts t.exps so = some ao ∧
      accepts t.exps se = some ae ∧ o = ⟨.code r.code, ao, ae⟩ := by
  unfold Test.out at h
  split at h
  · cases h
  · rename_i so se hrec
    split at h
    · rename_i ao ae hao hae
      cases h
      exact ⟨so, se, ao, ae, hrec, hao, hae, rfl⟩
    · cases h

/-! ## the lossy decoder on examples (`String::from_utf8_lossy`) -/

example : fromUtf8Lossy [0x61, 0xc3, 0xa9, 0x0a] = some ['a', 'é', '\n'] := by decide +kernel
/-- a byte that can start nothing is one replacement character -/
example : fromUtf8Lossy [0x61, 0xff, 0x62] = some ['a', replacement, 'b'] := by decide +kernel
/-- a truncated three-byte sequence is ONE replacement character, decoding resumes at the offending byte -/
example : fromUtf8Lossy [0xe2, 0x82, 0x41] = some [replacement, 'A'] := by decide +kernel
/-- `F0 80`: the second byte is outside `90..BF`, so both bytes are chunks of their own -/
example : fromUtf8Lossy [0xf0, 0x80] = some [replacement, replacement] := by decide +kernel
/-- surrogates are not encodable: `ED A0 80` is three chunks -/
example : fromUtf8Lossy [0xed, 0xa0, 0x80] = some [replacement, replacement, replacement] := by decide +kernel

/-- `GlobRule::make` resolves the escaped form of a pattern … -/
example : globMake ("a\\tb* (escaped)").toList = some ['a', '\t', 'b', '*'] := by
  rw [String.toList_ofList]
  decide +kernel
/-- … and rejects one whose bytes are not UTF-8 -/
example : globMake ("a\\xff* (escaped)").toList = none := by
  rw [String.toList_ofList]
  decide +kernel

/-! ## the single-script path (section 6 of the model) on examples -/

/-- `set_consistent!`: a value set on a LATER test case only is taken over … -/
example : setConsistent none [none, some false] = some (some false) := by decide +kernel
/-- … but then has to be carried by every test case behind it -/
example : setConsistent none [none, some false, none] = none := by decide +kernel
example : setConsistent none [some false, none] = none := by decide +kernel

/-- the Cram glob: `\*` is the character, `*` any run … -/
example : (Rule.cramGlob ['a', '\\', '*', '*']).matches [0x61, 0x2a, 0x62, 0x0a] = some true := by decide +kernel
example : (Rule.cramGlob ['a', '\\', '*']).matches [0x61, 0x62, 0x0a] = some false := by decide +kernel
/-- … and no pattern matches a line that is not UTF-8 (wildmatch sees U+FFFD there) -/
example : (Rule.cramGlob ['*']).matches [0x61, 0xff, 0x0a] = some false := by decide +kernel
example : (Rule.glob ['*']).matches [0x61, 0xff, 0x0a] = some true := by decide +kernel

/-- the script's streams: the divider line behind the bytes of each command, nothing behind a command
that leaves the shell, whose code is the script's exit status -/
example : scriptExit [⟨⟨[], [], 0⟩, false⟩, ⟨⟨[], [], 3⟩, true⟩, ⟨⟨[], [], 1⟩, false⟩] = 3 := by decide +kernel
example : scriptExit [⟨⟨[], [], 5⟩, false⟩] = 0 := by decide +kernel

end Scrut.TestRun
