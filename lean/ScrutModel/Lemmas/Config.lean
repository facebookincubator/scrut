import ScrutModel.Model.Config
namespace Scrut.Config

theorem Env.get_append (a b : Env) (k : Nat) : Env.get (a ++ b) k = (Env.get b k).or (Env.get a k) := by
  induction a with
  | nil => cases h : Env.get b k <;> simp [Env.get, h]
  | cons x a ih =>
    obtain ⟨k', v⟩ := x
    simp only [List.cons_append, Env.get, ih]
    cases hb : Env.get b k <;> cases ha : Env.get a k <;> simp

@[simp] theorem Env.get_nil (k : Nat) : Env.get [] k = none := rfl

/-- equality of configurations as Rust sees it: scalars equal, maps equal as maps -/
def TCC.Equiv (a b : TCC) : Prop :=
  a.detached = b.detached ∧ a.keepCrlf = b.keepCrlf ∧ a.outputStream = b.outputStream ∧
  a.skipCode = b.skipCode ∧ a.stripAnsi = b.stripAnsi ∧ a.timeout = b.timeout ∧ a.wait = b.wait ∧
  ∀ k, a.env.get k = b.env.get k

def DC.Equiv (a b : DC) : Prop :=
  a.append = b.append ∧ a.prepend = b.prepend ∧ a.shell = b.shell ∧
  a.totalTimeout = b.totalTimeout ∧ TCC.Equiv a.defaults b.defaults

/-- the first layer (highest precedence first) that sets a value -/
def firstSome : List (Option Nat) → Option Nat
  | [] => none
  | some v :: _ => some v
  | none :: rest => firstSome rest

theorem firstSome_nil : firstSome [] = none := rfl

theorem firstSome_cons (a : Option Nat) (l : List (Option Nat)) : firstSome (a :: l) = a.or (firstSome l) := by
  cases a <;> rfl

end Scrut.Config
