import ScrutModel.Model.UpdateSpec
import ScrutModel.Lemmas.LineParser
import ScrutModel.Lemmas.Basic
/-!
# Lemmas about the Markdown model

The byte-offset slicing of `extract_code_block_start` never fails, so the recogniser is a function on
characters (`fencePure`, in closed form `fencePure_eq`) and the tokenizer the pure `runP`.  Each loop of
the tokenizer collects the lines that do not close its construct (`*_skip`); from this the tokenizer's case
analysis `Update.Scan` (`scan_top`), of which `Covers` is the part the property speaks of.
-/
namespace Scrut.Markdown
open Scrut.LineParser

theorem byteLen_append (a b : Line) : byteLen (a ++ b) = byteLen a + byteLen b := by
  induction a with
  | nil => simp [byteLen]
  | cons c r ih => simp [byteLen, ih, Nat.add_assoc]

theorem splitAtByte_append (p r : Line) : splitAtByte (p ++ r) (byteLen p) = some (p, r) := by
  induction p with
  | nil => cases r <;> simp [byteLen, splitAtByte]
  | cons c p ih =>
    have hpos : 0 < c.utf8Size := Char.utf8Size_pos c
    obtain ⟨k, hk⟩ : ∃ k, byteLen (c :: p) = k + 1 := ⟨c.utf8Size + byteLen p - 1, by simp [byteLen]; omega⟩
    have hle : c.utf8Size ≤ k + 1 := by simp [byteLen] at hk; omega
    have hsub : k + 1 - c.utf8Size = byteLen p := by simp [byteLen] at hk; omega
    rw [hk]
    simp only [List.cons_append, splitAtByte, hle, if_true, hsub, ih]

theorem slice_mid (p m r : Line) : slice (p ++ m ++ r) (byteLen p) (byteLen (p ++ m)) = .ok m := by
  unfold slice
  rw [List.append_assoc, splitAtByte_append]
  simp only [byteLen_append, Nat.le_add_right, if_true, Nat.add_sub_cancel_left]
  rw [splitAtByte_append]

theorem slice_prefix (p r : Line) : slice (p ++ r) 0 (byteLen p) = .ok p := by
  have := slice_mid [] p r
  simpa [byteLen] using this

theorem sliceFrom_append (p r : Line) : sliceFrom (p ++ r) (byteLen p) = .ok r := by
  unfold sliceFrom
  rw [splitAtByte_append]

/-- after the language started: `pre` = the backticks, `mid` = the language so far -/
def scanSomePure (pre : Line) : Line → Line → Option (Line × Line × Line)
  | mid, [] => some (pre, trim mid, [])
  | mid, ch :: rest =>
    if ch = '{' then some (pre, trim mid, trimEnd (ch :: rest)) else scanSomePure pre (mid ++ [ch]) rest

/-- still in the backticks `pre` -/
def scanNonePure : Line → Line → Option (Line × Line × Line)
  | _, [] => none
  | pre, ch :: rest =>
    if ch ≠ '`' then
      (if pre.length < 3 then none
       else if ((ch :: rest).takeWhile (· ≠ '{')).contains '`' then none else scanSomePure pre [ch] rest)
    else scanNonePure (pre ++ [ch]) rest

def fencePure (line : Line) : Option (Line × Line × Line) :=
  if isBareFence line then some (line, [], []) else scanNonePure [] line

theorem scanFence_some (line pre : Line) :
    ∀ (rem mid : Line), line = pre ++ mid ++ rem →
      scanFence line rem (byteLen (pre ++ mid)) (some (byteLen pre)) = .ok (scanSomePure pre mid rem) := by
  intro rem
  induction rem with
  | nil =>
    intro mid h
    subst h
    simp only [scanFence, scanSomePure, List.append_nil]
    rw [slice_prefix, sliceFrom_append]
    rfl
  | cons ch rest ih =>
    intro mid h
    simp only [scanFence, scanSomePure]
    split
    · subst h
      rw [List.append_assoc pre mid, slice_prefix]
      rw [← List.append_assoc pre mid, slice_mid, sliceFrom_append]
      rfl
    · have h' : line = pre ++ (mid ++ [ch]) ++ rest := by simp [h]
      have := ih (mid ++ [ch]) h'
      simpa [byteLen_append, byteLen, Nat.add_assoc] using this

theorem scanFence_none (line : Line) :
    ∀ (rem pre : Line), line = pre ++ rem → byteLen pre = pre.length →
      scanFence line rem pre.length none = .ok (scanNonePure pre rem) := by
  intro rem
  induction rem with
  | nil => intro pre _ _; rfl
  | cons ch rest ih =>
    intro pre h hb
    simp only [scanFence, scanNonePure]
    split
    · split
      · rfl
      · have hs : sliceFrom line pre.length = .ok (ch :: rest) := by
          rw [h, ← hb]; exact sliceFrom_append pre (ch :: rest)
        rw [hs]
        simp only []
        split
        · rfl
        · have h' : line = pre ++ [ch] ++ rest := by simp [h]
          have := scanFence_some line pre rest [ch] h'
          simpa [byteLen_append, byteLen, hb] using this
    · rename_i hch
      have hch : ch = '`' := by simpa using hch
      subst hch
      have h' : line = (pre ++ ['`']) ++ rest := by simp [h]
      have hb' : byteLen (pre ++ ['`']) = (pre ++ ['`']).length := by
        simp [byteLen_append, byteLen, hb]; rfl
      have := ih (pre ++ ['`']) h' hb'
      have h1 : ('`' : Char).utf8Size = 1 := rfl
      simpa [h1] using this

theorem extractCodeBlockStart_eq (line : Line) : extractCodeBlockStart line = .ok (fencePure line) := by
  unfold extractCodeBlockStart fencePure
  split
  · rfl
  · have := scanFence_none line line [] (by simp) (by simp [byteLen])
    simpa using this

theorem fence_cons_tick (rest : Line) :
    fenceTicks ('`' :: rest) = '`' :: fenceTicks rest ∧ fenceInfo ('`' :: rest) = fenceInfo rest := by
  simp [fenceTicks, fenceInfo]

theorem fence_cons_other (ch : Char) (rest : Line) (h : ch ≠ '`') :
    fenceTicks (ch :: rest) = [] ∧ fenceInfo (ch :: rest) = ch :: rest := by
  simp [fenceTicks, fenceInfo, h]

theorem fence_backticks (n : Nat) (info : Line) (hi : info.head? ≠ some '`') :
    fenceTicks (Update.backticks n ++ info) = Update.backticks n ∧ fenceInfo (Update.backticks n ++ info) = info := by
  induction n with
  | zero =>
    cases info with
    | nil => exact ⟨rfl, rfl⟩
    | cons c r => exact fence_cons_other c r (by simpa using hi)
  | succ n ih =>
    have e : Update.backticks (n + 1) = '`' :: Update.backticks n := by simp [Update.backticks, List.replicate_succ]
    rw [e, List.cons_append, (fence_cons_tick _).1, (fence_cons_tick _).2, ih.1, ih.2]
    exact ⟨rfl, rfl⟩

theorem fence_all_ticks (l : Line) : l.all (· = '`') = true ↔ fenceInfo l = [] := by
  induction l with
  | nil => simp [fenceInfo]
  | cons c r ih =>
    by_cases hc : c = '`'
    · subst hc; simpa [(fence_cons_tick r).2] using ih
    · simp [(fence_cons_other c r hc).2, hc]

theorem fenceTicks_of_info_nil (l : Line) (h : fenceInfo l = []) : fenceTicks l = l := by
  have := List.takeWhile_append_dropWhile (p := (· = '`')) (l := l)
  unfold fenceInfo at h
  rw [h, List.append_nil] at this
  exact this

theorem byteLen_backticks (l : Line) (h : l.all (· = '`') = true) : byteLen l = l.length := by
  induction l with
  | nil => rfl
  | cons c r ih =>
    simp only [List.all_cons, Bool.and_eq_true, decide_eq_true_eq] at h
    obtain ⟨rfl, hr⟩ := h
    have h1 : ('`' : Char).utf8Size = 1 := rfl
    simp only [byteLen, ih hr, h1, List.length_cons]
    omega

/-- What the recogniser returns for a fence line: the run of backticks; the language – the info string up
to its first `{`, where the first character of the info string counts as language whatever it is
(`language_start` is set before `{` is looked for); the rest as inline configuration. -/
def fenceParts (l : Line) : Line × Line × Line :=
  match fenceInfo l with
  | [] => (l, [], [])
  | ch :: rest => (fenceTicks l, trim (ch :: rest.takeWhile (· ≠ '{')), trimEnd (rest.dropWhile (· ≠ '{')))

theorem scanSomePure_eq (pre : Line) : ∀ (rem mid : Line),
    scanSomePure pre mid rem
      = some (pre, trim (mid ++ rem.takeWhile (· ≠ '{')), trimEnd (rem.dropWhile (· ≠ '{'))) := by
  intro rem
  induction rem with
  | nil => intro mid; simp [scanSomePure, trimEnd]
  | cons ch rest ih =>
    intro mid
    simp only [scanSomePure]
    split
    · next h => subst h; simp
    · next h => rw [ih]; simp [h]

theorem scanNonePure_eq : ∀ (rem pre : Line),
    scanNonePure pre rem =
      match fenceInfo rem with
      | [] => none
      | ch :: rest =>
        if (pre ++ fenceTicks rem).length < 3 ∨ ((ch :: rest).takeWhile (· ≠ '{')).contains '`' = true then none
        else some (pre ++ fenceTicks rem, trim (ch :: rest.takeWhile (· ≠ '{')), trimEnd (rest.dropWhile (· ≠ '{'))) := by
  intro rem
  induction rem with
  | nil => intro pre; rfl
  | cons c r ih =>
    intro pre
    by_cases hc : c = '`'
    · subst hc
      simp only [scanNonePure, ne_eq, not_true_eq_false, if_false, ih, (fence_cons_tick r).1, (fence_cons_tick r).2,
        List.append_assoc, List.singleton_append]
    · simp only [scanNonePure, ne_eq, hc, not_false_eq_true, if_true, (fence_cons_other c r hc).1,
        (fence_cons_other c r hc).2, List.append_nil, scanSomePure_eq, List.singleton_append]
      by_cases h3 : pre.length < 3 <;> simp [h3]

/-- **The code's fence recogniser and the property's notion of a fence line agree**: a line is
reported as the start of a code block iff it is three or more backticks followed by an info string
without backtick in front of its first `{`; what is reported is `fenceParts`. -/
theorem fencePure_eq (l : Line) : fencePure l = if isFenceLine l then some (fenceParts l) else none := by
  unfold fencePure isFenceLine fenceLang fenceParts
  split
  · next hbare =>
    simp only [isBareFence, Bool.and_eq_true, decide_eq_true_eq] at hbare
    have hi := (fence_all_ticks l).mp hbare.2
    simp [hi, fenceTicks_of_info_nil l hi, ← byteLen_backticks l hbare.2, hbare.1]
  · next hbare =>
    rw [scanNonePure_eq]
    cases hi : fenceInfo l with
    | nil =>
      have hall := (fence_all_ticks l).mpr hi
      have : ¬ 3 ≤ l.length := fun h => hbare (by simp [isBareFence, hall, byteLen_backticks l hall, h])
      simp [fenceTicks_of_info_nil l hi, this]
    | cons ch rest =>
      -- by cases: fewer than three backticks (neither side accepts), or at least three (both test the info string)
      by_cases h3 : (fenceTicks l).length < 3 <;> simp [h3, Nat.not_le.mpr, Nat.le_of_not_lt]

theorem fencePure_isSome_iff (l : Line) : (fencePure l).isSome = isFenceLine l := by
  rw [fencePure_eq]; cases isFenceLine l <;> rfl

theorem fencePure_fst (l : Line) (r : Line × Line × Line) (h : fencePure l = some r) : r.1 = fenceTicks l := by
  rw [fencePure_eq] at h
  split at h
  · cases h
    unfold fenceParts
    split
    · next hi => exact (fenceTicks_of_info_nil l hi).symm
    · rfl
  · cases h

theorem fence_iff_spec (l : Line) :
    extractCodeBlockStart l = .ok none ↔ isFenceLine l = false := by
  rw [extractCodeBlockStart_eq, fencePure_eq]
  cases isFenceLine l <;> simp

@[simp] theorem csub_succ_one (n : Nat) : csub (n + 1) 1 = .ok n := by
  simp [csub]

/-- `run` without the checked operations -/
def runP (languages : List Line) : Mode → Bool → Nat → List Line → List Tok
  | m, _, _, [] => m.flushTok
  | .top, cs, li, l :: rest =>
    if !cs && l = frontMatterFence then runP languages (.front []) cs (li + 1) rest
    else
      match fencePure l with
      | some (bt, language, config) =>
        if !languages.contains language then runP languages (.verb bt li language [l]) true (li + 1) rest
        else
          match stripBraces config with
          | some c => runP languages (.test bt language [(li, c)] [] []) true (li + 1) rest
          | none => runP languages (.test bt language [] [] []) true (li + 1) rest
      | none => .line li l :: runP languages .top (cs || !(trim l).isEmpty) (li + 1) rest
  | .front acc, cs, li, l :: rest =>
    if l = frontMatterFence then .docConfig acc :: runP languages .top cs (li + 1) rest
    else runP languages (.front (acc ++ [(li, l)])) cs (li + 1) rest
  | .verb bt start language acc, cs, li, l :: rest =>
    if startsWith l bt then .verbatim start language (acc ++ [l]) :: runP languages .top cs (li + 1) rest
    else runP languages (.verb bt start language (acc ++ [l])) cs (li + 1) rest
  | .test bt language cfg comments code, cs, li, l :: rest =>
    if startsWith l bt then .test language cfg comments code :: runP languages .top cs (li + 1) rest
    else if code.isEmpty && isComment l then
      runP languages (.test bt language cfg (comments ++ [(li, l)]) code) cs (li + 1) rest
    else runP languages (.test bt language cfg comments (code ++ [(li, l)])) cs (li + 1) rest

theorem run_eq (languages : List Line) (lines : List Line) :
    ∀ (m : Mode) (cs : Bool) (li : Nat), run languages m cs li lines = .ok (runP languages m cs li lines) := by
  induction lines with
  | nil => intro m cs li; cases m <;> rfl
  | cons l rest ih =>
    intro m cs li
    cases m with
    | top =>
      simp only [run, runP, extractCodeBlockStart_eq, csub_succ_one]
      generalize fencePure l = f
      split
      · exact ih _ _ _
      · rcases f with _ | ⟨bt, language, config⟩
        · simp only [ih]
        · simp only []
          split
          · exact ih _ _ _
          · cases stripBraces config <;> simp only [] <;> exact ih _ _ _
    | front acc =>
      simp only [run, runP, csub_succ_one]
      split
      · rw [ih]
      · exact ih _ _ _
    | verb bt start language acc =>
      simp only [run, runP]
      split
      · rw [ih]
      · exact ih _ _ _
    | test bt language cfg comments code =>
      simp only [run, runP, csub_succ_one]
      split
      · rw [ih]
      · split
        · exact ih _ _ _
        · exact ih _ _ _

theorem tokenize_eq (languages : List Line) (lines : List Line) :
    tokenize languages lines = .ok (runP languages .top false 0 lines) := run_eq _ _ _ _ _

theorem number_append (i : Nat) (a b : List Line) :
    number i (a ++ b) = number i a ++ number (i + a.length) b := by
  induction a generalizing i with
  | nil => simp [number]
  | cons l r ih => simp [number, ih, Nat.add_assoc, Nat.add_comm 1]

theorem number_map_snd (s : Nat) (body : List Line) : (number s body).map (·.2) = body := by
  induction body generalizing s with
  | nil => rfl
  | cons l r ih => simp [number, ih]

theorem front_skip (L : List Line) (cs : Bool) (body rest : List Line) (hb : ∀ x ∈ body, x ≠ frontMatterFence) :
    ∀ (acc : Numbered) (li : Nat),
      runP L (.front acc) cs li (body ++ rest)
        = runP L (.front (acc ++ number li body)) cs (li + body.length) rest := by
  induction body with
  | nil => intro acc li; simp [number]
  | cons l r ih =>
    intro acc li
    obtain ⟨hl, hr⟩ := List.forall_mem_cons.mp hb
    simp only [List.cons_append, runP, hl, if_false, ih hr, number, List.length_cons, List.append_assoc]
    simp [Nat.add_assoc, Nat.add_comm 1]

theorem verb_skip (L : List Line) (cs : Bool) (bt : Line) (start : Nat) (language : Line) (body rest : List Line)
    (hb : ∀ x ∈ body, startsWith x bt = false) :
    ∀ (acc : List Line) (li : Nat),
      runP L (.verb bt start language acc) cs li (body ++ rest)
        = runP L (.verb bt start language (acc ++ body)) cs (li + body.length) rest := by
  induction body with
  | nil => intro acc li; simp
  | cons l r ih =>
    intro acc li
    obtain ⟨hl, hr⟩ := List.forall_mem_cons.mp hb
    simp only [List.cons_append, runP, hl, Bool.false_eq_true, if_false, ih hr, List.length_cons, List.append_assoc]
    simp [Nat.add_assoc, Nat.add_comm 1]

/-- The loop of a test block collects lines that do not close it as comment lines while no code line has
been seen (`cd = []`), as code lines afterwards.  Callers use the parts they need: the tokens cover the
body; once code has begun the comments are fixed; a body of comment lines stays without code; comment
lines stay comment lines; the tokenizer's state behind the body. -/
theorem test_skip (L : List Line) (cs : Bool) (bt language : Line) (cfg : Numbered) (body : List Line)
    (hb : ∀ x ∈ body, startsWith x bt = false) :
    ∀ (cm cd : Numbered) (li : Nat),
      ∃ cm' cd', cm' ++ cd' = cm ++ cd ++ number li body ∧ (cd ≠ [] → cm' = cm) ∧
        ((∀ x ∈ body, isComment x = true) → cd = [] → cd' = []) ∧
        ((∀ c ∈ cm, isComment c.2 = true) → ∀ c ∈ cm', isComment c.2 = true) ∧
        ∀ rest, runP L (.test bt language cfg cm cd) cs li (body ++ rest)
          = runP L (.test bt language cfg cm' cd') cs (li + body.length) rest := by
  induction body with
  | nil => intro cm cd li; exact ⟨cm, cd, by simp [number], fun _ => rfl, fun _ h => h, fun h => h, fun _ => rfl⟩
  | cons l r ih =>
    intro cm cd li
    obtain ⟨hl, hr⟩ := List.forall_mem_cons.mp hb
    have hlen : li + (l :: r).length = li + 1 + r.length := by simp [Nat.add_assoc, Nat.add_comm 1]
    by_cases hc : (cd.isEmpty && isComment l) = true
    · obtain ⟨hcd, hcl⟩ : cd = [] ∧ isComment l = true := by simpa using hc
      obtain ⟨cm', cd', heq, _, hcom, hcms, hrun⟩ := ih hr (cm ++ [(li, l)]) cd (li + 1)
      refine ⟨cm', cd', by simp [heq, hcd, number], fun h => absurd hcd h,
        fun h1 h2 => hcom (fun x hx => h1 x (List.mem_cons_of_mem _ hx)) h2, fun h => hcms ?_, fun rest => ?_⟩
      · intro c hc'
        rcases List.mem_append.mp hc' with h' | h'
        · exact h c h'
        · cases List.mem_singleton.mp h'; exact hcl
      · simp only [List.cons_append, runP, hl, hc, Bool.false_eq_true, if_false, if_true, hrun, hlen]
    · obtain ⟨cm', cd', heq, hcm, _, hcms, hrun⟩ := ih hr cm (cd ++ [(li, l)]) (li + 1)
      refine ⟨cm', cd', by simp [heq, number], fun _ => hcm (by simp), fun h1 h2 => ?_, hcms, fun rest => ?_⟩
      · exact absurd (by simp [h2, h1 l (List.mem_cons_self ..)]) hc
      · simp only [List.cons_append, runP, hl, hc, Bool.false_eq_true, if_false, hrun, hlen]

/-- `runP` over a whole run of comment lines in front of the code (`test_skip` read forwards) -/
theorem fwd_test_comments (L : List Line) (cs : Bool) (bt language : Line) (cfg : Numbered)
    (comments : List Line) (tail : List Line)
    (hb : ∀ x ∈ comments, startsWith x bt = false) (hcm : ∀ x ∈ comments, isComment x = true)
    (cm : Numbered) (li : Nat) :
    runP L (.test bt language cfg cm []) cs li (comments ++ tail)
      = runP L (.test bt language cfg (cm ++ number li comments) []) cs (li + comments.length) tail := by
  obtain ⟨cm', cd', heq, _, hcd, _, hrun⟩ := test_skip L cs bt language cfg comments hb cm [] li
  obtain rfl := hcd hcm rfl
  rw [List.append_nil, List.append_nil] at heq
  rw [hrun, heq]

theorem runP_top_cons (L : List Line) (cs : Bool) (li : Nat) (l : Line) (rest : List Line) :
    runP L .top cs li (l :: rest) =
      if !cs && l = frontMatterFence then runP L (.front []) cs (li + 1) rest
      else
        match fencePure l with
        | some (bt, language, config) =>
          if !L.contains language then runP L (.verb bt li language [l]) true (li + 1) rest
          else runP L (.test bt language (cfgLines li config) [] []) true (li + 1) rest
        | none => .line li l :: runP L .top (cs || !(trim l).isEmpty) (li + 1) rest := by
  simp only [runP]
  split
  · rfl
  · rcases fencePure l with _ | ⟨bt, language, config⟩
    · rfl
    · simp only [cfgLines]
      split
      · rfl
      · cases stripBraces config <;> rfl

theorem fencePure_frontMatterFence : fencePure frontMatterFence = none := by decide +kernel

theorem fencePure_ne_front {l : Line} {r : Line × Line × Line} (h : fencePure l = some r) :
    l ≠ frontMatterFence := by
  intro e
  subst e
  rw [fencePure_frontMatterFence] at h
  cases h

theorem fencePure_of {l : Line} {r : Option (Line × Line × Line)} (hx : extractCodeBlockStart l = .ok r) :
    fencePure l = r := by
  rw [extractCodeBlockStart_eq] at hx
  injection hx

theorem runP_opener (L : List Line) {opener bt language config : Line}
    (hx : extractCodeBlockStart opener = .ok (some (bt, language, config))) (cs : Bool) (li : Nat) (rest : List Line) :
    runP L .top cs li (opener :: rest) =
      if !L.contains language then runP L (.verb bt li language [opener]) true (li + 1) rest
      else runP L (.test bt language (cfgLines li config) [] []) true (li + 1) rest := by
  rw [runP_top_cons, fencePure_of hx]
  simp [fencePure_ne_front (fencePure_of hx)]

end Scrut.Markdown

namespace Scrut.Update
open Scrut.Markdown Scrut.LineParser

/-- `Scan L strict cs li src toks`: at the top level (`cs`: content seen, `li`: line number) the tokenizer reads the
lines `src` as the tokens `toks`.  This is `Covers` with the tokenizer's state, with one rule for a block whether it is
closed or runs to the end of the document (`closer = none`, as in `Rewritten`), and with what the block loop knows of
the lines in front of the code.  `strict = true` leaves out `frontOpen`: the reading in which `update` writes a
closing `---` only for a front-matter that has one (`Rewritten … true`); `scan_top` yields the scan with
`strict = false`, `Scan.toStrict` (`Lemmas/Update.lean`) the strict one when every front-matter is closed. -/
inductive Scan (L : List Line) (strict : Bool) : Bool → Nat → List Line → List Tok → Prop where
  | nil (cs li) : Scan L strict cs li [] []
  | line (cs li l rest toks) :
      (!cs && decide (l = frontMatterFence)) = false → fencePure l = none →
      Scan L strict (cs || !(trim l).isEmpty) (li + 1) rest toks →
      Scan L strict cs li (l :: rest) (.line li l :: toks)
  | front (li body rest toks) :
      (∀ x ∈ body, x ≠ frontMatterFence) →
      Scan L strict false (li + 1 + body.length + 1) rest toks →
      Scan L strict false li (frontMatterFence :: (body ++ frontMatterFence :: rest))
        (.docConfig (number (li + 1) body) :: toks)
  | frontOpen (li body) :
      strict = false → (∀ x ∈ body, x ≠ frontMatterFence) →
      Scan L strict false li (frontMatterFence :: body) [.docConfig (number (li + 1) body)]
  | verb (cs li opener bt language config body closer rest toks) :
      fencePure opener = some (bt, language, config) → L.contains language = false →
      (∀ x ∈ body, startsWith x bt = false) → Closes bt closer rest →
      Scan L strict true (li + 1 + body.length + closer.toList.length) rest toks →
      Scan L strict cs li (opener :: (body ++ (closer.toList ++ rest)))
        (.verbatim li language (opener :: (body ++ closer.toList)) :: toks)
  | test (cs li opener bt language config body closer rest toks comments code) :
      fencePure opener = some (bt, language, config) → L.contains language = true →
      (∀ x ∈ body, startsWith x bt = false) → Closes bt closer rest →
      comments ++ code = number (li + 1) body → (∀ c ∈ comments, isComment c.2 = true) →
      Scan L strict true (li + 1 + body.length + closer.toList.length) rest toks →
      Scan L strict cs li (opener :: (body ++ (closer.toList ++ rest)))
        (.test language (cfgLines li config) comments code :: toks)

theorem scan_top (L : List Line) :
    ∀ (n : Nat) (src : List Line), src.length ≤ n →
      ∀ (cs : Bool) (li : Nat), Scan L false cs li src (runP L .top cs li src) := by
  intro n
  induction n with
  | zero =>
    intro src h cs li
    obtain rfl : src = [] := List.eq_nil_of_length_eq_zero (by omega)
    exact .nil cs li
  | succ n ih =>
    intro src h cs li
    cases src with
    | nil => exact .nil cs li
    | cons l rest =>
      -- what stands behind the construct that `l` opens is shorter than `rest`
      have hlen : ∀ {body : List Line} {c : Option Line} {rest' : List Line},
          rest = body ++ (c.toList ++ rest') → rest'.length ≤ n := by
        intro body c rest' h1
        rw [h1] at h; simp at h; omega
      rw [runP_top_cons]
      split
      · next hfm =>
        obtain ⟨rfl, rfl⟩ : cs = false ∧ l = frontMatterFence := by simpa using hfm
        obtain ⟨body, closer, rest', h1, hb, hc⟩ :=
          exists_split_first (fun x => decide (x = frontMatterFence)) rest
        have hb : ∀ x ∈ body, x ≠ frontMatterFence := fun x hx => of_decide_eq_false (hb x hx)
        rw [h1, front_skip L false body _ hb]
        cases closer with
        | some c =>
          cases of_decide_eq_true hc
          simpa [runP] using Scan.front li body rest' _ hb (ih rest' (hlen h1) false _)
        | none =>
          subst hc
          simpa [runP, Mode.flushTok] using Scan.frontOpen (L := L) li body rfl hb
      · next hfm =>
        cases hf : fencePure l with
        | none => exact .line cs li l rest _ (by simpa using hfm) hf (ih rest (by simp at h; omega) _ _)
        | some t =>
          obtain ⟨bt, language, config⟩ := t
          obtain ⟨body, closer, rest', h1, hb, hc⟩ := exists_split_first (startsWith · bt) rest
          have ih' := ih rest' (hlen h1) true (li + 1 + body.length + closer.toList.length)
          simp only []
          split
          · next hlang =>
            have hlang : L.contains language = false := by simpa using hlang
            rw [h1, verb_skip L true bt li language body _ hb]
            cases closer with
            | some c =>
              simpa [runP, show startsWith c bt = true from hc] using
                Scan.verb cs li l bt language config body (some c) rest' _ hf hlang hb hc ih'
            | none =>
              cases (show rest' = [] from hc)
              simpa [runP, Mode.flushTok] using
                Scan.verb cs li l bt language config body none [] _ hf hlang hb rfl ih'
          · next hlang =>
            have hlang : L.contains language = true := by simpa using hlang
            obtain ⟨cm, cd, heq, _, _, hcms, hrun⟩ :=
              test_skip L true bt language (cfgLines li config) body hb [] [] (li + 1)
            rw [h1, hrun]
            cases closer with
            | some c =>
              simpa [runP, show startsWith c bt = true from hc] using
                Scan.test cs li l bt language config body (some c) rest' _ cm cd hf hlang hb hc
                  (by simpa using heq) (hcms nofun) ih'
            | none =>
              cases (show rest' = [] from hc)
              simpa [runP, Mode.flushTok] using
                Scan.test cs li l bt language config body none [] _ cm cd hf hlang hb rfl
                  (by simpa using heq) (hcms nofun) ih'

theorem Scan.covers {L : List Line} {strict cs : Bool} {li : Nat} {src : List Line} {toks : List Tok}
    (h : Scan L strict cs li src toks) : Covers L li src toks := by
  induction h with
  | nil cs li => exact .nil li
  | line cs li l rest toks _ hf _ ih => exact .line li l rest toks (by rw [extractCodeBlockStart_eq, hf]) ih
  | front li body rest toks hb _ ih =>
    rw [show li + 1 + body.length + 1 = li + body.length + 2 by omega] at ih
    exact .frontClosed li body rest toks hb ih
  | frontOpen li body _ hb => exact .frontOpen li body hb
  | verb cs li opener bt language config body closer rest toks hf hl hb hc _ ih =>
    have hx : extractCodeBlockStart opener = .ok (some (bt, language, config)) := by rw [extractCodeBlockStart_eq, hf]
    cases closer with
    | some c =>
      rw [show li + 1 + body.length + (some c).toList.length = li + body.length + 2 by simp; omega] at ih
      simpa using Covers.verbClosed li opener bt language config body c rest toks hx hl hb hc ih
    | none =>
      cases (show rest = [] from hc)
      cases ih
      simpa using Covers.verbOpen li opener bt language config body hx hl hb
  | test cs li opener bt language config body closer rest toks comments code hf hl hb hc heq _ _ ih =>
    have hx : extractCodeBlockStart opener = .ok (some (bt, language, config)) := by rw [extractCodeBlockStart_eq, hf]
    cases closer with
    | some c =>
      rw [show li + 1 + body.length + (some c).toList.length = li + body.length + 2 by simp; omega] at ih
      simpa using Covers.testClosed li opener bt language config body c rest toks comments code hx hl hb hc heq ih
    | none =>
      cases (show rest = [] from hc)
      cases ih
      simpa using Covers.testOpen li opener bt language config body comments code hx hl hb heq

end Scrut.Update

namespace Scrut.Markdown
open Scrut.LineParser

theorem tokenize_covers (L : List Line) (lines : List Line) :
    ∃ toks, tokenize L lines = .ok toks ∧ Covers L 0 lines toks :=
  ⟨_, tokenize_eq L lines, (Update.scan_top L lines.length lines (Nat.le_refl _) false 0).covers⟩

theorem addAll_ne_crash (expOk : Line → Bool) (code : Numbered) :
    ∀ (s : LineParser.State Cfg), addAll expOk s code ≠ .error .crash := by
  induction code with
  | nil => intro s; simp [addAll]
  | cons x rest ih =>
    intro s
    obtain ⟨i, l⟩ := x
    simp only [addAll]
    split
    · simp
    · exact ih _

theorem stepTok_ne_crash (env : Env) (st : PState) (t : Tok) : stepTok env st t ≠ .error .crash := by
  cases t with
  | line i l => simp only [stepTok]; split <;> simp
  | docConfig ls => simp only [stepTok]; split <;> simp
  | verbatim s lang ls => simp only [stepTok]; split <;> simp
  | test lang cfg cm cd =>
    simp only [stepTok]
    split
    · rename_i e he
      split at he
      · cases he
      · split at he <;> cases he
        simp
    · rename_i c hc
      split
      · rename_i e he
        intro h
        cases h
        exact addAll_ne_crash _ _ _ he
      · split
        · split <;> simp
        · simp

theorem parseTokens_ne_crash (env : Env) (toks : List Tok) :
    ∀ (st : PState), parseTokens env st toks ≠ .error .crash := by
  induction toks with
  | nil => intro st; simp [parseTokens]
  | cons t rest ih =>
    intro st
    simp only [parseTokens]
    split
    · rename_i e he
      intro h
      cases h
      exact stepTok_ne_crash _ _ _ he
    · exact ih _

theorem parseLines_ne_crash (env : Env) (lines : List Line) : parseLines env lines ≠ .error .crash := by
  simp only [parseLines, tokenize_eq]
  split
  · rename_i e he
    intro h
    cases h
    exact parseTokens_ne_crash _ _ _ he
  · simp

end Scrut.Markdown
