import ScrutModel.Lemmas.GenerateCreate
import ScrutModel.Lemmas.DiffWF
/-!
# C09: `generate_testcase` for a test with expectations (`scrut update`)
-/
namespace Scrut.GenLemmas
open Scrut.Utf8 Scrut.Esc Scrut.EscLemmas Scrut.Rules Scrut.Gen Scrut.Diff
open Scrut.Grammar (Params parse)

theorem linesAt_range' (pre ls : List (List UInt8)) :
    linesAt (pre ++ ls) (List.range' pre.length ls.length) = some ls := by
  induction ls generalizing pre with
  | nil => rfl
  | cons l ls ih =>
    have h := ih (pre ++ [l])
    rw [List.append_assoc, List.length_append, List.singleton_append, List.length_singleton] at h
    simp [List.range'_succ, linesAt, h]

theorem linesAt_all (ls : List (List UInt8)) : linesAt ls (rangeFrom 0 ls.length) = some ls := by
  simpa [rangeFrom_eq_range'] using linesAt_range' [] ls

theorem withExitCode_false (body : List Char) (code : Int) :
    withExitCode false body code = body ++ exitCodeOpt code := by
  simp [withExitCode]

theorem withExitCode_not_cont (k : Bool) (body : List Char) (code : Int) (h : body.take 2 ≠ ['>', ' ']) :
    withExitCode k body code = body ++ exitCodeOpt code := by
  simp [withExitCode, h]

theorem withExitCode_cont (body : List Char) (code : Int) (h : body.take 2 = ['>', ' ']) :
    withExitCode true body code = exitCodeLine code ++ body := by
  simp [withExitCode, h]

theorem generateTestcase_ok (m : Mode) (isOther : Char → Bool) (cmd : List Char) (out : List UInt8)
    (lines : List (List UInt8)) (code : Int) :
    generateTestcase m isOther cmd .ok out code = generateTestcaseUpd m isOther cmd [] .ok lines code := by
  unfold generateTestcase generateTestcaseUpd
  cases expression cmd <;> simp [withExitCode]

theorem generateTestcase_invalidExit (m : Mode) (isOther : Char → Bool) (cmd : List Char) (out : List UInt8)
    (origs : List (List Char)) (actual code : Int) :
    generateTestcase m isOther cmd (.invalidExit actual) out code =
      generateTestcaseUpd m isOther cmd origs (.invalidExit actual) (Newline.splitAtNewline out) code := by
  unfold generateTestcase generateTestcaseUpd
  cases expression cmd <;> simp

theorem diffBody_unexpected_all (m : Mode) (isOther : Char → Bool) (origs : List (List Char))
    (ls : List (List UInt8)) :
    diffBody m isOther origs ls [.unexpected (rangeFrom 0 ls.length)] = expectationLines m isOther ls := by
  simp only [diffBody, linesAt_all, Option.bind_some]
  cases expectationLines m isOther ls <;> simp

theorem generateTestcase_malformed (m : Mode) (isOther : Char → Bool) (cmd : List Char) (out : List UInt8)
    (ls : List (List UInt8)) (code : Int) :
    generateTestcase m isOther cmd (.malformed ls) out code =
      generateTestcaseUpd m isOther cmd [] (.malformed [.unexpected (rangeFrom 0 ls.length)]) ls code := by
  unfold generateTestcase generateTestcaseUpd
  cases expression cmd with
  | none => rfl
  | some ex =>
    have hk : firstKept [.unexpected (rangeFrom 0 ls.length)] = false := by
      simp only [firstKept]; split <;> rfl
    simp only [diffBody_unexpected_all, hk, withExitCode_false, List.append_assoc]

theorem generateTestcase_create_upd (m : Mode) (isOther : Char → Bool) (cmd : List Char) (out : List UInt8)
    (code : Int) (es : Nat → Diff.Exp) (mt : Nat → Nat → Bool) :
    generateTestcase m isOther cmd (createResult out code) out code =
      generateTestcaseUpd m isOther cmd []
        (updResult none (diff 0 (Newline.splitAtNewline out).length es mt) code)
        (Newline.splitAtNewline out) code := by
  rw [diff_no_expectations]
  unfold createResult updResult
  by_cases hc : code = 0
  · subst hc
    cases hs : Newline.splitAtNewline out with
    | nil => simpa [hasDiff] using generateTestcase_ok m isOther cmd out [] 0
    | cons l ls =>
      have := generateTestcase_malformed m isOther cmd out (l :: ls) 0
      simpa [hasDiff] using this
  · simpa [hc] using generateTestcase_invalidExit m isOther cmd out [] code code

/-- one entry of the expectation list `update` writes: expectation `ei` of the test as it was
(`original_string`), or the expectation generated for output line `li` -/
inductive Slot where
  | kept (ei : Nat)
  | gen (li : Nat)
  deriving DecidableEq, Repr

def DL.slots : DL → List Slot
  | .matched ei _ => [.kept ei]
  | .unmatched _ => []
  | .unexpected ls => ls.map .gen

/-- the expectation list `generate_testcase` writes for `MalformedOutput(d)` -/
def slots (d : List DL) : List Slot := d.flatMap DL.slots

@[simp] theorem slots_cons (x : DL) (d : List DL) : slots (x :: d) = DL.slots x ++ slots d := List.flatMap_cons

/-- the text of one entry, with its line feed -/
def slotText (m : Mode) (isOther : Char → Bool) (origs : List (List Char)) (lines : List (List UInt8)) :
    Slot → Option (List Char)
  | .kept ei => origs[ei]?.map assureNewlineC
  | .gen li => (lines[li]?.bind (expectationLine m isOther)).map (· ++ ['\n'])

def slotsText (m : Mode) (isOther : Char → Bool) (origs : List (List Char)) (lines : List (List UInt8)) :
    List Slot → Option (List Char)
  | [] => some []
  | s :: r =>
    match slotText m isOther origs lines s, slotsText m isOther origs lines r with
    | some a, some b => some (a ++ b)
    | _, _ => none

theorem slotsText_cons_some {m : Mode} {isOther : Char → Bool} {origs : List (List Char)} {lines : List (List UInt8)}
    {s : Slot} {r : List Slot} {body : List Char} (h : slotsText m isOther origs lines (s :: r) = some body) :
    ∃ a b, slotText m isOther origs lines s = some a ∧ slotsText m isOther origs lines r = some b ∧ body = a ++ b := by
  simp only [slotsText] at h
  cases h1 : slotText m isOther origs lines s with
  | none => simp [h1] at h
  | some a =>
    cases h2 : slotsText m isOther origs lines r with
    | none => simp [h1, h2] at h
    | some b =>
      simp only [h1, h2, Option.some.injEq] at h
      exact ⟨a, b, rfl, rfl, h.symm⟩

theorem slotText_kept_some {m : Mode} {isOther : Char → Bool} {origs : List (List Char)} {lines : List (List UInt8)}
    {ei : Nat} {a : List Char} (h : slotText m isOther origs lines (.kept ei) = some a) :
    ∃ o, origs[ei]? = some o ∧ a = assureNewlineC o := by
  obtain ⟨o, ho, rfl⟩ := Option.map_eq_some_iff.mp h
  exact ⟨o, ho, rfl⟩

theorem slotText_gen_some {m : Mode} {isOther : Char → Bool} {origs : List (List Char)} {lines : List (List UInt8)}
    {li : Nat} {a : List Char} (h : slotText m isOther origs lines (.gen li) = some a) :
    ∃ l t, lines[li]? = some l ∧ expectationLine m isOther l = some t ∧ a = t ++ ['\n'] := by
  obtain ⟨t, ht, rfl⟩ := Option.map_eq_some_iff.mp h
  obtain ⟨l, hl, ht⟩ := Option.bind_eq_some_iff.mp ht
  exact ⟨l, t, hl, ht, rfl⟩

theorem slotsText_gen_append (m : Mode) (isOther : Char → Bool) (origs : List (List Char))
    (lines : List (List UInt8)) (is : List Nat) (r : List Slot) :
    slotsText m isOther origs lines (is.map .gen ++ r) =
      match (linesAt lines is).bind (expectationLines m isOther), slotsText m isOther origs lines r with
      | some e, some t => some (e ++ t)
      | _, _ => none := by
  induction is with
  | nil =>
    simp only [List.map_nil, List.nil_append, linesAt, Option.bind_some, expectationLines]
    cases slotsText m isOther origs lines r <;> rfl
  | cons i is ih =>
    simp only [List.map_cons, List.cons_append, slotsText, ih, slotText, linesAt]
    cases lines[i]? with
    | none => rfl
    | some l =>
      cases linesAt lines is with
      | none => cases expectationLine m isOther l <;> simp
      | some ls =>
        simp only [Option.bind_some, expectationLines]
        cases expectationLine m isOther l <;> cases expectationLines m isOther ls <;>
          cases slotsText m isOther origs lines r <;> simp

theorem slotsText_gen (m : Mode) (isOther : Char → Bool) (origs : List (List Char))
    (lines : List (List UInt8)) (is : List Nat) :
    slotsText m isOther origs lines (is.map .gen) = (linesAt lines is).bind (expectationLines m isOther) := by
  have := slotsText_gen_append m isOther origs lines is []
  rw [List.append_nil] at this
  rw [this]
  cases (linesAt lines is).bind (expectationLines m isOther) <;> simp [slotsText]

theorem diffBody_eq_slots (m : Mode) (isOther : Char → Bool) (origs : List (List Char))
    (lines : List (List UInt8)) (d : List DL) :
    diffBody m isOther origs lines d = slotsText m isOther origs lines (slots d) := by
  induction d with
  | nil => rfl
  | cons x d ih =>
    rw [slots_cons]
    cases x with
    | matched ei ls =>
      simp only [diffBody, DL.slots, List.singleton_append, slotsText, slotText, ih]
      cases origs[ei]? <;> cases slotsText m isOther origs lines (slots d) <;> rfl
    | unmatched ei => simp only [diffBody, DL.slots, List.nil_append, ih]
    | unexpected ls =>
      simp only [diffBody, DL.slots, slotsText_gen_append, ih]
      cases (linesAt lines ls).bind (expectationLines m isOther) <;>
        cases slotsText m isOther origs lines (slots d) <;> rfl

/-- is the first entry of the list a retained expectation -/
def headKept : List Slot → Bool
  | .kept _ :: _ => true
  | _ => false

theorem firstKept_slots (d : List DL) : firstKept d = headKept (slots d) := by
  induction d with
  | nil => rfl
  | cons x d ih =>
    rw [slots_cons]
    cases x with
    | matched ei ls => rfl
    | unmatched ei => simpa [firstKept, DL.slots] using ih
    | unexpected ls =>
      cases ls with
      | nil => simpa [firstKept, DL.slots] using ih
      | cons i r => simp [firstKept, DL.slots, headKept]

theorem headKept_gen (ls : List Nat) : headKept (ls.map .gen) = false := by cases ls <;> rfl

theorem take2_assureNewlineC (o rest : List Char) :
    ((assureNewlineC o ++ rest).take 2 == ['>', ' ']) = (o.take 2 == ['>', ' ']) := by
  unfold assureNewlineC
  match o with
  | [] => rfl
  | [c] =>
    by_cases hc : c = '\n'
    · subst hc
      cases rest <;> simp
    · simp [hc]
  | a :: b :: r => split <;> rfl

/-- `starts_with("> ")` of a list of expectation texts written one after the other: the first text decides -/
def contHead : List (List Char) → Bool
  | o :: _ => o.take 2 == ['>', ' ']
  | [] => false

/-- the first line written behind the command is a RETAINED original text that starts like a continuation
line (`> `) -/
def contFirst (origs : List (List Char)) : List Slot → Bool
  | .kept ei :: _ => match origs[ei]? with | some o => o.take 2 == ['>', ' '] | none => false
  | _ => false

theorem withExitCode_contHead (origs : List (List Char)) (code : Int) :
    withExitCode true (origs.flatMap assureNewlineC) code =
      if contHead origs then exitCodeLine code ++ origs.flatMap assureNewlineC
      else origs.flatMap assureNewlineC ++ exitCodeOpt code := by
  cases origs with
  | nil => simp [withExitCode, contHead]
  | cons o r =>
    simp only [withExitCode, List.flatMap_cons, take2_assureNewlineC, contHead, Bool.true_and]

theorem withExitCode_slots (m : Mode) (isOther : Char → Bool) (origs : List (List Char))
    (lines : List (List UInt8)) (sl : List Slot) (body : List Char) (code : Int)
    (h : slotsText m isOther origs lines sl = some body) :
    withExitCode (headKept sl) body code =
      if contFirst origs sl then exitCodeLine code ++ body else body ++ exitCodeOpt code := by
  cases sl with
  | nil => simp [headKept, contFirst, withExitCode_false]
  | cons s r =>
    cases s with
    | gen li => simp [headKept, contFirst, withExitCode_false]
    | kept ei =>
      obtain ⟨a, t, ha, _, rfl⟩ := slotsText_cons_some h
      obtain ⟨o, ho, rfl⟩ := slotText_kept_some ha
      simp only [headKept, contFirst, ho, withExitCode, take2_assureNewlineC, Bool.true_and]

/-- a list that starts with a GENERATED line never has its exit code in front: a generated line does not
start with `> ` (`line_ok`), so `first_kept` makes no difference for it -/
theorem withExitCode_headKept_irrel {P : Params} (hP : StdParams P) (m : Mode) (isOther : Char → Bool)
    (hC : m = .unicode → AsciiContract isOther) (origs : List (List Char))
    (lines : List (List UInt8)) (hl : ∀ l ∈ lines, Newline.IsLine l) (sl : List Slot) (body : List Char) (code : Int)
    (h : slotsText m isOther origs lines sl = some body) :
    withExitCode (headKept sl) body code = withExitCode true body code := by
  cases sl with
  | nil =>
    simp only [slotsText, Option.some.injEq] at h
    subst h
    simp [headKept, withExitCode]
  | cons s r =>
    cases s with
    | kept ei => rfl
    | gen li =>
      obtain ⟨a, rest, ha, _, rfl⟩ := slotsText_cons_some h
      obtain ⟨l, t, hli, ht, rfl⟩ := slotText_gen_some ha
      obtain ⟨t', ht', hok⟩ := line_ok hP m isOther hC (hl l (List.mem_of_getElem? hli))
      obtain rfl : t' = t := Option.some.inj (ht'.symm.trans ht)
      have hnc : ((t' ++ ['\n']) ++ rest).take 2 ≠ ['>', ' '] := by
        have hs := (commandLead_none_strip hok.no_lead).2
        match t', hs with
        | [], _ => simp
        | [c], _ => simp
        | a :: b :: r, hs =>
          intro he
          have : a = '>' ∧ b = ' ' := by simpa using he
          simp [LineParser.stripPrefix, this.1, this.2] at hs
      show withExitCode false _ code = _
      rw [withExitCode_false, withExitCode_not_cont true _ code hnc]

theorem generateTestcaseUpd_ok_text (m : Mode) (isOther : Char → Bool) (cmd ex : List Char)
    (origs : List (List Char)) (lines : List (List UInt8)) (code : Int) (hex : expression cmd = some ex) :
    generateTestcaseUpd m isOther cmd origs .ok lines code =
      some (if contHead origs then ex ++ exitCodeLine code ++ origs.flatMap assureNewlineC
            else ex ++ origs.flatMap assureNewlineC ++ exitCodeOpt code) := by
  simp only [generateTestcaseUpd, hex, withExitCode_contHead]
  split <;> simp

theorem generateTestcaseUpd_malformed_text (m : Mode) (isOther : Char → Bool) (cmd ex : List Char)
    (origs : List (List Char)) (lines : List (List UInt8)) (d : List DL) (code : Int)
    (hex : expression cmd = some ex) :
    generateTestcaseUpd m isOther cmd origs (.malformed d) lines code =
      (slotsText m isOther origs lines (slots d)).map (fun b =>
        if contFirst origs (slots d) then ex ++ exitCodeLine code ++ b else ex ++ b ++ exitCodeOpt code) := by
  simp only [generateTestcaseUpd, hex, diffBody_eq_slots, firstKept_slots]
  cases hb : slotsText m isOther origs lines (slots d) with
  | none => rfl
  | some b =>
    simp only [Option.map_some, withExitCode_slots m isOther origs lines (slots d) b code hb]
    split <;> simp

/-- entry `s` of the written list accounts for output line `l`: a retained expectation that matches it, or the
line generated for it -/
def SlotOK (mt : Nat → Nat → Bool) (s : Slot) (l : Nat) : Prop :=
  match s with
  | .kept ei => mt ei l = true
  | .gen li => li = l

/-- entry by entry: the list of entries against the list of lines -/
def SlotsOK (mt : Nat → Nat → Bool) : List Slot → List Nat → Prop
  | [], [] => True
  | s :: ss, l :: ls => SlotOK mt s l ∧ SlotsOK mt ss ls
  | _, _ => False

theorem SlotsOK.append {mt : Nat → Nat → Bool} : ∀ {a : List Slot} {la : List Nat} {b : List Slot} {lb : List Nat},
    SlotsOK mt a la → SlotsOK mt b lb → SlotsOK mt (a ++ b) (la ++ lb)
  | [], [], _, _, _, hb => by simpa using hb
  | [], _ :: _, _, _, ha, _ => by simp [SlotsOK] at ha
  | _ :: _, [], _, _, ha, _ => by simp [SlotsOK] at ha
  | s :: a, l :: la, b, lb, ha, hb => by
    simp only [SlotsOK, List.cons_append] at ha ⊢
    exact ⟨ha.1, SlotsOK.append ha.2 hb⟩

theorem SlotsOK.get {mt : Nat → Nat → Bool} : ∀ {a : List Slot} {la : List Nat}, SlotsOK mt a la →
    a.length = la.length ∧ ∀ k (h : k < a.length) (h' : k < la.length), SlotOK mt a[k] la[k]
  | [], [], _ => ⟨rfl, by intro k h; simp at h⟩
  | [], _ :: _, ha => by simp [SlotsOK] at ha
  | _ :: _, [], ha => by simp [SlotsOK] at ha
  | s :: a, l :: la, ha => by
    simp only [SlotsOK] at ha
    obtain ⟨h1, h2⟩ := SlotsOK.get ha.2
    refine ⟨by simp [h1], ?_⟩
    intro k h h'
    cases k with
    | zero => simpa using ha.1
    | succ k => simpa using h2 k (by simpa using h) (by simpa using h')

theorem slotsOK_gen (mt : Nat → Nat → Bool) (ls : List Nat) : SlotsOK mt (ls.map .gen) ls := by
  induction ls with
  | nil => trivial
  | cons l ls ih => exact ⟨rfl, ih⟩

theorem slotsOK_of_good (n m : Nat) (es : Nat → Exp) (mt : Nat → Nat → Bool)
    (hq : ∀ i, (es i).multiline = false) (d : List DL) (hgood : ∀ x ∈ d, DL.Good n m es mt x) :
    SlotsOK mt (slots d) (linesOf d) := by
  induction d with
  | nil => trivial
  | cons x d ih =>
    rw [slots_cons, linesOf_cons]
    refine SlotsOK.append ?_ (ih (fun y hy => hgood y (List.mem_cons_of_mem _ hy)))
    have hx := hgood x (by simp)
    cases x with
    | matched ei ls =>
      obtain ⟨_, _, hm, hlen⟩ := hx
      have h1 := hlen (hq ei)
      match ls, h1 with
      | [l], _ => exact ⟨(hm l (by simp)).2, trivial⟩
    | unmatched ei => trivial
    | unexpected ls => exact slotsOK_gen mt ls

theorem rangeFrom_zero_get (m k : Nat) (h : k < (rangeFrom 0 m).length) : (rangeFrom 0 m)[k] = k := by
  simp [rangeFrom]

/-- one entry per output line, in line order: a retained expectation that matches it, or the one generated for it -/
def SlotsSpec (mt : Nat → Nat → Bool) (m : Nat) (sl : List Slot) : Prop :=
  sl.length = m ∧ ∀ k (h : k < sl.length), (∃ ei, sl[k] = .kept ei ∧ mt ei k = true) ∨ sl[k] = .gen k

theorem slots_spec (n m : Nat) (es : Nat → Exp) (mt : Nat → Nat → Bool)
    (hq : ∀ i, (es i).multiline = false) : SlotsSpec mt m (slots (diff n m es mt)) := by
  have wf := diff_wf n m es mt
  have hok := slotsOK_of_good n m es mt hq _ wf.good
  rw [wf.cover, rangeFrom_zero] at hok
  obtain ⟨hlen, hget⟩ := hok.get
  rw [List.length_range] at hlen
  refine ⟨hlen, fun k h => ?_⟩
  have := hget k h (by rw [List.length_range]; omega)
  rw [List.getElem_range] at this
  cases hs : (slots (diff n m es mt))[k] with
  | kept ei => rw [hs] at this; exact Or.inl ⟨ei, rfl, this⟩
  | gen li => rw [hs] at this; right; rw [show li = k from this]

/-- the retained expectations among the entries, in order -/
def keptIdx : List Slot → List Nat
  | [] => []
  | .kept ei :: r => ei :: keptIdx r
  | .gen _ :: r => keptIdx r

theorem keptIdx_append (a b : List Slot) : keptIdx (a ++ b) = keptIdx a ++ keptIdx b := by
  induction a with
  | nil => rfl
  | cons s a ih => cases s <;> simp [keptIdx, ih]

theorem keptIdx_gen (ls : List Nat) : keptIdx (ls.map .gen) = [] := by
  induction ls with
  | nil => rfl
  | cons l ls ih => simpa [keptIdx] using ih

theorem keptIdx_sublist (d : List DL) : (keptIdx (slots d)).Sublist (idxOf d) := by
  induction d with
  | nil => exact List.Sublist.slnil
  | cons x d ih =>
    rw [slots_cons, idxOf_cons, keptIdx_append]
    cases x with
    | matched ei ls => simpa [DL.slots, DL.idx, keptIdx] using ih
    | unmatched ei => simpa [DL.slots, DL.idx, keptIdx] using ih.cons ei
    | unexpected ls => simpa [DL.slots, DL.idx, keptIdx_gen] using ih

/-- the quantifiers of the updated list: those of the retained expectations, those of the generated ones -/
def updQuant (es gq : Nat → Exp) (sl : List Slot) (k : Nat) : Exp :=
  match sl[k]? with
  | some (.kept ei) => es ei
  | some (.gen li) => gq li
  | none => ⟨false, false⟩

/-- the match matrix of the updated list: entry `k` against line `j` -/
def updMatrix (mt gm : Nat → Nat → Bool) (sl : List Slot) (k j : Nat) : Bool :=
  match sl[k]? with
  | some (.kept ei) => mt ei j
  | some (.gen li) => gm li j
  | none => false

/-- without quantifiers the list `update` writes has no quantifier either, and the matcher run on it against the
same lines reports no difference (`C09_update_unquantified_passes`) -/
theorem update_no_diff (n m : Nat) (es gq : Nat → Exp) (mt gm : Nat → Nat → Bool)
    (hq : ∀ i, es i = ⟨false, false⟩) (hgq : ∀ i, gq i = ⟨false, false⟩)
    (hgm : ∀ i, i < m → gm i i = true) :
    (∀ k, updQuant es gq (slots (diff n m es mt)) k = ⟨false, false⟩) ∧
    hasDiff (diff (slots (diff n m es mt)).length m (updQuant es gq (slots (diff n m es mt)))
      (updMatrix mt gm (slots (diff n m es mt)))) = false := by
  obtain ⟨hlen, hspec⟩ := slots_spec n m es mt (fun i => by rw [hq i])
  have hquant : ∀ k, updQuant es gq (slots (diff n m es mt)) k = ⟨false, false⟩ := by
    intro k
    unfold updQuant
    split
    · exact hq _
    · exact hgq _
    · rfl
  refine ⟨hquant, ?_⟩
  have key := Scrut.Props.C03.C03_own_lines m (updQuant es gq (slots (diff n m es mt)))
    (updMatrix mt gm (slots (diff n m es mt))) hquant ?_
  · rw [hlen]; exact key
  · intro k hk
    have hk' : k < (slots (diff n m es mt)).length := by omega
    unfold updMatrix
    rw [List.getElem?_eq_getElem hk']
    rcases hspec k hk' with ⟨ei, h1, h2⟩ | h1
    · rw [h1]; exact h2
    · rw [h1]; exact hgm k hk

end Scrut.GenLemmas
