import ScrutModel.Lemmas.Basic
import ScrutModel.Model.Divider
import ScrutModel.Lemmas.Template
import ScrutModel.Lemmas.Crlf
/-! Round trip of the divider protocol, `iterate (joinStream …) = payloads`; then `replace_crlf` against a
chunk, `executeAll` on the two streams, and the text of the script line by line. -/
namespace Scrut.Divider
open Scrut.Template

theorem digit_toNat (n : Nat) : (digit n).toNat = 48 + n % 10 :=
  (by decide : ∀ k, k < 10 → (UInt8.ofNat (48 + k)).toNat = 48 + k) _ (Nat.mod_lt _ (by decide))

theorem digitVal?_digit (n : Nat) : digitVal? (digit n) = some (n % 10) :=
  (by decide : ∀ k, k < 10 → digitVal? (UInt8.ofNat (48 + k)) = some k) _ (Nat.mod_lt _ (by decide))

theorem digit_ne (n : Nat) (b : UInt8) (hb : b.toNat < 48 ∨ 57 < b.toNat) : digit n ≠ b := by
  rintro rfl
  have := digit_toNat n
  have : n % 10 < 10 := Nat.mod_lt _ (by decide)
  omega

theorem decF_snoc (fuel n : Nat) : ∃ f, decF fuel n = f ++ [digit n] := by
  cases fuel with
  | zero => exact ⟨[], rfl⟩
  | succ k =>
    unfold decF
    by_cases h : n < 10
    · exact ⟨[], by simp [h]⟩
    · exact ⟨decF k (n / 10), by simp [h]⟩

theorem decF_digits : ∀ (fuel n : Nat) (b : UInt8), b ∈ decF fuel n → ∃ k, b = digit k := by
  intro fuel
  induction fuel with
  | zero => intro n b hb; simp [decF] at hb; exact ⟨n, hb⟩
  | succ k ih =>
    intro n b hb
    unfold decF at hb
    by_cases h : n < 10
    · simp [h] at hb; exact ⟨n, hb⟩
    · simp only [h, if_false, List.mem_append, List.mem_singleton] at hb
      rcases hb with hb | hb
      · exact ih _ _ hb
      · exact ⟨n, hb⟩

theorem dec_not_mem (n : Nat) (b : UInt8) (hb : b.toNat < 48 ∨ 57 < b.toNat) : b ∉ dec n := by
  intro h
  obtain ⟨k, hk⟩ := decF_digits n n b h
  exact digit_ne k b hb hk.symm

theorem dec_ne_nil (n : Nat) : dec n ≠ [] := by
  obtain ⟨f, hf⟩ := decF_snoc n n
  unfold dec; rw [hf]; simp

theorem parseDigitsFrom_snoc : ∀ (xs : Bytes) (a : Nat) (d : UInt8),
    parseDigitsFrom a (xs ++ [d]) =
      (parseDigitsFrom a xs).bind (fun v => (digitVal? d).map (fun k => v * 10 + k)) := by
  intro xs
  induction xs with
  | nil =>
    intro a d
    simp only [List.nil_append, parseDigitsFrom]
    cases digitVal? d <;> simp
  | cons x xs ih =>
    intro a d
    simp only [List.cons_append, parseDigitsFrom]
    cases digitVal? x with
    | none => simp
    | some k => simp [ih]

theorem parseDigitsFrom_decF : ∀ (fuel n : Nat), n ≤ fuel → parseDigitsFrom 0 (decF fuel n) = some n := by
  intro fuel
  induction fuel with
  | zero =>
    intro n hn
    have : n = 0 := Nat.le_zero.1 hn
    subst this
    simp [decF, parseDigitsFrom, digitVal?_digit]
  | succ k ih =>
    intro n hn
    unfold decF
    by_cases h : n < 10
    · simp only [h, if_true, parseDigitsFrom, digitVal?_digit]
      congr 1
      simp [Nat.mod_eq_of_lt h]
    · simp only [h, if_false]
      rw [parseDigitsFrom_snoc, ih (n / 10) (by omega), digitVal?_digit]
      simp only [Option.bind_some, Option.map_some]
      congr 1; omega

theorem parseDigits_dec (n : Nat) : parseDigits (dec n) = some n := by
  unfold parseDigits
  simp only [dec_ne_nil, if_false]
  exact parseDigitsFrom_decF n n (Nat.le_refl _)

/-- `usize` holds an index below 2^64 and no other -/
theorem parseUsize_dec (n : Nat) : parseUsize (dec n) = if n < 2 ^ 64 then some n else none := by
  have hp := parseDigits_dec n
  unfold parseUsize
  cases h : dec n with
  | nil => exact absurd h (dec_ne_nil n)
  | cons b r =>
    have h43 : b ≠ 43 := fun e => dec_not_mem n 43 (by decide) (by rw [h, e]; exact List.mem_cons_self)
    rw [h] at hp
    simp only [h43, if_false, hp]

theorem parseI32_dec (n : Nat) : parseI32 (dec n) = if n < 2 ^ 31 then some (n : Int) else none := by
  have hp := parseDigits_dec n
  unfold parseI32
  cases h : dec n with
  | nil => exact absurd h (dec_ne_nil n)
  | cons b r =>
    have hb : b ∈ dec n := by rw [h]; exact List.mem_cons_self
    have h43 : b ≠ 43 := fun e => dec_not_mem n 43 (by decide) (e ▸ hb)
    have h45 : b ≠ 45 := fun e => dec_not_mem n 45 (by decide) (e ▸ hb)
    rw [h] at hp
    simp only [h45, h43, if_false, hp]

theorem splitLines_line : ∀ (xs cur rest : Bytes), LF ∉ xs →
    splitLines cur (xs ++ LF :: rest) = (cur ++ xs ++ [LF]) :: splitLines [] rest := by
  intro xs
  induction xs with
  | nil => intro cur rest _; simp [splitLines]
  | cons x xs ih =>
    intro cur rest h
    have hx : x ≠ LF := fun e => h (by simp [e])
    have hxs : LF ∉ xs := fun e => h (by simp [e])
    simp only [List.cons_append, splitLines, hx, if_false]
    rw [ih (cur ++ [x]) rest hxs]
    simp

theorem trimNewlines_snoc_lf (x : Bytes) : trimNewlines (x ++ [LF]) = trimNewlines x := by
  simp [trimNewlines]

theorem trimNewlines_snoc_ne (y : Bytes) (d : UInt8) (h : d ≠ LF) : trimNewlines (y ++ [d]) = y ++ [d] := by
  simp [trimNewlines, h]

theorem trimNewlines_prefix (x : Bytes) : trimNewlines x <+: x := by
  unfold trimNewlines
  have h := List.dropWhile_suffix (fun b => decide (b = LF)) (l := x.reverse)
  have := (List.reverse_prefix (l₁ := List.dropWhile (fun b => decide (b = LF)) x.reverse) (l₂ := x.reverse)).2 h
  simpa using this

/-- a text that ends in a decimal number ends in a digit: nothing is trimmed -/
theorem trimNewlines_append_dec (x : Bytes) (n : Nat) : trimNewlines (x ++ dec n) = x ++ dec n := by
  obtain ⟨f, hf⟩ := decF_snoc n n
  rw [dec, hf, ← List.append_assoc]
  exact trimNewlines_snoc_ne _ _ (digit_ne n LF (by decide))

theorem PREFIX_ne_nil : PREFIX ≠ [] := by decide +kernel

/-- a pattern none of whose proper non-empty suffixes is a prefix of it cannot start inside the
text in front of its own occurrence -/
theorem stripPrefix_overlap_none (pat t post : Bytes)
    (hub : ∀ u c, u ≠ [] → c ≠ [] → pat = u ++ c → ¬ c <+: pat)
    (ht : t ≠ []) (hno : ¬ pat <:+: t) :
    stripPrefix? pat (t ++ pat ++ post) = none := by
  rw [stripPrefix?_eq_none_iff, List.append_assoc]
  intro hp
  -- `pat` and `t` both start the text, so one starts the other
  rcases List.prefix_or_prefix_of_prefix hp (List.prefix_append t _) with h | ⟨c, rfl⟩
  · exact hno h.isInfix
  · have hc : c ≠ [] := fun e => hno (by rw [e, List.append_nil]; exact List.infix_refl _)
    rw [List.prefix_append_right_inj] at hp
    exact hub t c ht hc rfl (List.prefix_of_prefix_length_le hp (List.prefix_append _ _) (by simp))

/-- a run of `a` followed by a non-empty text without `a`: a proper non-empty suffix starts with
fewer `a` than the whole, or with an element of `T`, so it is not a prefix of the whole -/
theorem run_unbordered {α : Type} (a : α) (n : Nat) (T : List α) (hn : 0 < n) (hT : T ≠ []) (ha : a ∉ T) :
    ∀ u c, u ≠ [] → c ≠ [] → List.replicate n a ++ T = u ++ c → ¬ c <+: List.replicate n a ++ T := by
  intro u c hu hc h hpre
  -- a non-empty text whose first element is in `T` does not start a text that starts with `a`
  have key : ∀ (x : α) (xs l : List α), x ∈ T → ¬ x :: xs <+: a :: l :=
    fun x xs l hx hp => ha ((List.cons_prefix_cons.1 hp).1 ▸ hx)
  rcases List.append_eq_append_iff.1 h with ⟨t', _, hT'⟩ | ⟨c', hrep, hc'⟩
  · -- `c` is the end of `T`, the whole starts with `a`
    obtain ⟨m, rfl⟩ : ∃ m, n = m + 1 := ⟨n - 1, by omega⟩
    cases c with
    | nil => exact hc rfl
    | cons x xs => exact key x xs _ (by rw [hT']; simp) hpre
  · -- `c = a^j ++ T` with `j < n`: cancelling `a^j` leaves `T <+: a^(n-j) ++ T`
    obtain ⟨hlen, hu', hc''⟩ := List.replicate_eq_append_iff.1 hrep
    have hswap : List.replicate n a = c' ++ u := by
      rw [hu', hc'', List.replicate_append_replicate, ← hlen, Nat.add_comm]
    rw [hc', hswap, List.append_assoc, List.prefix_append_right_inj, hu'] at hpre
    cases T with
    | nil => exact hT rfl
    | cons x xs =>
      obtain ⟨m, hm⟩ : ∃ m, u.length = m + 1 := ⟨u.length - 1, by have := List.length_pos_iff.2 hu; omega⟩
      rw [hm, List.replicate_succ, List.cons_append] at hpre
      exact key x xs _ List.mem_cons_self hpre

theorem needle_ne_nil (salt : Bytes) : needle salt ≠ [] := by simp [needle, PREFIX]

/-- the divider start is eight `~` followed by bytes that are not `~` (salt without `~`) -/
theorem needle_unbordered (salt : Bytes) (h126 : (126 : UInt8) ∉ salt) :
    ∀ u c, u ≠ [] → c ≠ [] → needle salt = u ++ c → ¬ c <+: needle salt := by
  have hn : needle salt =
      List.replicate 8 126 ++ ([69, 88, 69, 67, 68, 73, 86, 73, 68, 69, 82, 58, 58] ++ (salt ++ SEP)) := rfl
  have hT : (126 : UInt8) ∉ [69, 88, 69, 67, 68, 73, 86, 73, 68, 69, 82, 58, 58] ++ (salt ++ SEP) := by
    simp only [List.mem_append, not_or]
    exact ⟨by decide +kernel, h126, by decide +kernel⟩
  rw [hn]
  exact run_unbordered 126 8 _ (by decide) (List.cons_ne_nil _ _) hT

theorem splitFirst_needle (salt cur tail : Bytes) (h126 : (126 : UInt8) ∉ salt) (h : ¬ needle salt <:+: cur) :
    splitFirst (needle salt) (cur ++ needle salt ++ tail) = some (cur, tail) := by
  apply splitFirst_append_of_none (needle salt) cur tail (needle_ne_nil salt)
  intro t ht hsuf
  exact stripPrefix_overlap_none (needle salt) t tail (needle_unbordered salt h126) ht
    (fun hin => h (List.IsInfix.trans hin hsuf.isInfix))

theorem splitFirst_sep (s t : Bytes) (hs : COLON ∉ s) : splitFirst SEP (s ++ SEP ++ t) = some (s, t) := by
  apply splitFirst_append_of_none SEP s t (by decide)
  intro u hu hsuf
  cases u with
  | nil => exact absurd rfl hu
  | cons x u' =>
    have hx : x ∈ s := hsuf.subset (by simp)
    have hne : COLON ≠ x := fun e => hs (e ▸ hx)
    simp [SEP, stripPrefix?, hne]

/-- text of a divider line without its LF, after the prefix -/
def body (salt : Bytes) (i c : Nat) : Bytes := salt ++ SEP ++ dec i ++ SEP ++ dec c

theorem not_mem_divider_line (salt : Bytes) (i c : Nat) {b : UInt8} (hs : b ∉ salt) (hp : b ∉ PREFIX)
    (hc : b ∉ SEP) (hd : b.toNat < 48 ∨ 57 < b.toNat) : b ∉ PREFIX ++ body salt i c := by
  simp only [body, List.mem_append, not_or]
  exact ⟨hp, ⟨⟨⟨⟨hs, hc⟩, dec_not_mem i b hd⟩, hc⟩, dec_not_mem c b hd⟩⟩

theorem parseDivider_bare (salt : Bytes) (i c : Nat) (hs : COLON ∉ salt) :
    parseDivider (needle salt ++ (dec i ++ SEP ++ dec c)) =
      if i < 2 ^ 64 ∧ c < 2 ^ 31 then some (.found none i (c : Int)) else none := by
  have hsp : splitFirst PREFIX (PREFIX ++ (salt ++ SEP ++ (dec i ++ SEP ++ dec c))) =
      some ([], salt ++ SEP ++ (dec i ++ SEP ++ dec c)) :=
    splitFirst_append_of_none PREFIX [] _ PREFIX_ne_nil (fun t ht hsuf => absurd (List.suffix_nil.1 hsuf) ht)
  have h58 : COLON ∉ dec i := dec_not_mem i COLON (by decide)
  have hb : needle salt ++ (dec i ++ SEP ++ dec c) = PREFIX ++ (salt ++ SEP ++ (dec i ++ SEP ++ dec c)) := by
    simp only [needle, List.append_assoc]
  unfold parseDivider
  rw [← List.append_assoc, trimNewlines_append_dec, List.append_assoc, hb]
  simp only [hsp, splitFirst_sep salt _ hs, splitFirst_sep (dec i) _ h58, parseUsize_dec, parseI32_dec]
  by_cases hi : i < 2 ^ 64
  · by_cases hc : c < 2 ^ 31
    · rw [if_pos hi, if_pos hc, if_pos (And.intro hi hc)]; rfl
    · rw [if_pos hi, if_neg hc, if_neg (fun h : i < 2 ^ 64 ∧ c < 2 ^ 31 => hc h.2)]
  · rw [if_neg hi, if_neg (fun h : i < 2 ^ 64 ∧ c < 2 ^ 31 => hi h.1)]

theorem parseSalted_snoc_lf (salt l : Bytes) : parseSalted salt (l ++ [LF]) = parseSalted salt l := by
  simp only [parseSalted, trimNewlines_snoc_lf]

theorem parseSalted_divider (salt cur : Bytes) (i c : Nat) (hs : COLON ∉ salt) (h126 : (126 : UInt8) ∉ salt)
    (hcur : ¬ needle salt <:+: cur) :
    parseSalted salt (cur ++ (PREFIX ++ body salt i c) ++ [LF]) =
      if i < 2 ^ 64 ∧ c < 2 ^ 31 then some (.found (if cur = [] then none else some cur) i (c : Int))
      else none := by
  have hl : cur ++ (PREFIX ++ body salt i c) = cur ++ needle salt ++ (dec i ++ SEP) ++ dec c := by
    simp only [needle, body, List.append_assoc]
  have hl' : cur ++ needle salt ++ (dec i ++ SEP) ++ dec c = cur ++ needle salt ++ (dec i ++ SEP ++ dec c) := by
    simp only [List.append_assoc]
  rw [parseSalted_snoc_lf]
  unfold parseSalted
  rw [hl, trimNewlines_append_dec, hl']
  simp only [splitFirst_needle salt cur _ h126 hcur, parseDivider_bare salt i c hs]
  by_cases h : i < 2 ^ 64 ∧ c < 2 ^ 31
  · rw [if_pos h, if_pos h]
  · rw [if_neg h, if_neg h]

theorem parseSalted_noneedle (salt l : Bytes) (h : ¬ needle salt <:+: l) :
    parseSalted salt l = some .notFound := by
  have h' : splitFirst (needle salt) (trimNewlines l) = none := by
    rw [splitFirst_none_iff]
    exact fun hin => h (List.IsInfix.trans hin (trimNewlines_prefix l).isInfix)
  unfold parseSalted
  simp only [h']

theorem iterLines_notFound {salt : Bytes} {limit : Option Nat} {l : Bytes} (ls buf : List Bytes) (e : Nat)
    (h : parseSalted salt l = some .notFound) :
    iterLines salt limit (l :: ls) buf e = iterLines salt limit ls (buf ++ [l]) e := by
  rw [iterLines]; simp only [h]

theorem iterLines_failed {salt : Bytes} {limit : Option Nat} {l : Bytes} (ls buf : List Bytes) (e : Nat)
    (h : parseSalted salt l = none) :
    iterLines salt limit (l :: ls) buf e = .error (.failed e) := by
  rw [iterLines]; simp only [h]

theorem iterLines_found {salt : Bytes} {limit : Option Nat} {l : Bytes} (ls buf : List Bytes) {e : Nat}
    {pre : Option Bytes} {code : Int}
    (h : parseSalted salt l = some (.found pre e code)) (hl : ∀ n, limit = some n → e < n) :
    iterLines salt limit (l :: ls) buf e =
      (iterLines salt limit ls [] (e + 1)).map (fun r => (buf.flatten ++ pre.getD [], code) :: r) := by
  rw [iterLines]
  simp only [h, ne_eq, not_true_eq_false, if_false]
  cases limit with
  | none => cases pre <;> cases iterLines salt none ls [] (e + 1) <;> rfl
  | some n =>
    simp only [ge_iff_le, Nat.not_le.2 (hl n rfl), if_false]
    cases pre <;> cases iterLines salt (some n) ls [] (e + 1) <;> rfl

/-- walking through bytes that hold no divider start only moves them into the buffer and the line
being collected; whatever follows them (`X`) is met with these two -/
theorem iterLines_walk (salt : Bytes) (limit : Option Nat) (e : Nat) (X : Bytes) :
    ∀ (payload cur : Bytes) (buf : List Bytes), ¬ needle salt <:+: (cur ++ payload) →
      ∃ buf' cur', buf'.flatten ++ cur' = buf.flatten ++ cur ++ payload ∧ ¬ needle salt <:+: cur' ∧
        iterLines salt limit (splitLines cur (payload ++ X)) buf e =
          iterLines salt limit (splitLines cur' X) buf' e := by
  intro payload
  induction payload with
  | nil => intro cur buf hno; exact ⟨buf, cur, by simp, by simpa using hno, rfl⟩
  | cons b p ih =>
    intro cur buf hno
    by_cases hb : b = LF
    · subst hb
      have hcur : ¬ needle salt <:+: cur := fun hin => hno (hin.trans (List.prefix_append _ _).isInfix)
      have hp' : ¬ needle salt <:+: ([] ++ p) := fun hin =>
        hno (hin.trans (by simpa using (List.suffix_append (cur ++ [LF]) p).isInfix))
      obtain ⟨buf', cur', h1, h2, h3⟩ := ih [] (buf ++ [cur ++ [LF]]) hp'
      refine ⟨buf', cur', by simpa using h1, h2, ?_⟩
      rw [List.cons_append, splitLines, if_pos rfl, iterLines_notFound _ _ _
        ((parseSalted_snoc_lf salt cur).trans (parseSalted_noneedle salt cur hcur)), h3]
    · obtain ⟨buf', cur', h1, h2, h3⟩ := ih (cur ++ [b]) buf (by simpa using hno)
      refine ⟨buf', cur', by simpa using h1, h2, ?_⟩
      rw [List.cons_append, splitLines, if_neg hb, h3]

/-- bytes without a divider start behind the last divider are dropped (what a command that leaves
the shell wrote) -/
theorem iterLines_plain (salt : Bytes) (limit : Option Nat) (i : Nat) (payload cur : Bytes) (buf : List Bytes)
    (hno : ¬ needle salt <:+: (cur ++ payload)) :
    iterLines salt limit (splitLines cur payload) buf i = .ok [] := by
  obtain ⟨buf', cur', _, h2, h3⟩ := iterLines_walk salt limit i [] payload cur buf hno
  rw [List.append_nil] at h3
  rw [h3]
  by_cases hcur : cur' = []
  · simp [splitLines, hcur, iterLines]
  · simp only [splitLines, hcur, if_false]
    rw [iterLines_notFound _ _ _ (parseSalted_noneedle salt cur' h2), iterLines]

theorem chunk_eq (salt : Bytes) (i c : Nat) (payload : Bytes) :
    chunk salt i payload c = payload ++ ((PREFIX ++ body salt i c) ++ [LF]) := by
  simp [chunk, body]

theorem iterLines_chunk_walk (limit : Option Nat) (salt : Bytes) (hsl : LF ∉ salt) (i c e : Nat) (rest : Bytes)
    (payload cur : Bytes) (buf : List Bytes) (hno : ¬ needle salt <:+: (cur ++ payload)) :
    ∃ buf' cur', buf'.flatten ++ cur' = buf.flatten ++ cur ++ payload ∧ ¬ needle salt <:+: cur' ∧
      iterLines salt limit (splitLines cur (chunk salt i payload c ++ rest)) buf e =
        iterLines salt limit ((cur' ++ (PREFIX ++ body salt i c) ++ [LF]) :: splitLines [] rest) buf' e := by
  obtain ⟨buf', cur', h1, h2, h3⟩ :=
    iterLines_walk salt limit e ((PREFIX ++ body salt i c) ++ LF :: rest) payload cur buf hno
  refine ⟨buf', cur', h1, h2, ?_⟩
  have hch : chunk salt i payload c ++ rest = payload ++ ((PREFIX ++ body salt i c) ++ LF :: rest) := by
    simp [chunk_eq]
  have hlf : LF ∉ PREFIX ++ body salt i c :=
    not_mem_divider_line salt i c hsl (by decide +kernel) (by decide +kernel) (by decide)
  rw [hch, h3, splitLines_line _ _ _ hlf, List.append_assoc cur']

theorem iterLines_chunk (limit : Option Nat) (salt : Bytes) (hs : COLON ∉ salt) (hsl : LF ∉ salt)
    (h126 : (126 : UInt8) ∉ salt)
    (i c : Nat) (hi : i < 2 ^ 64) (hc : c < 2 ^ 31) (hl : ∀ n, limit = some n → i < n) (rest : Bytes) :
    ∀ (payload cur : Bytes) (buf : List Bytes), ¬ needle salt <:+: (cur ++ payload) →
      iterLines salt limit (splitLines cur (chunk salt i payload c ++ rest)) buf i =
        match iterLines salt limit (splitLines [] rest) [] (i + 1) with
        | .ok r => .ok ((buf.flatten ++ cur ++ payload, (c : Int)) :: r)
        | .error e => .error e := by
  intro payload cur buf hno
  obtain ⟨buf', cur', h1, h2, h3⟩ := iterLines_chunk_walk limit salt hsl i c i rest payload cur buf hno
  have hp := parseSalted_divider salt cur' i c hs h126 h2
  rw [if_pos ⟨hi, hc⟩] at hp
  have hpre : buf'.flatten ++ (if cur' = [] then none else some cur').getD [] = buf.flatten ++ cur ++ payload := by
    rw [← h1]; split <;> simp [*]
  rw [h3, iterLines_found _ _ hp hl, hpre]
  cases iterLines salt limit (splitLines [] rest) [] (i + 1) <;> rfl

/-- the parser fails on the divider line of test 2^64 (the index is parsed as `usize`) -/
theorem iterLines_chunk_big (limit : Option Nat) (salt : Bytes) (hs : COLON ∉ salt) (hsl : LF ∉ salt)
    (h126 : (126 : UInt8) ∉ salt) (i c e : Nat) (hi : ¬ i < 2 ^ 64) (rest : Bytes) :
    ∀ (payload cur : Bytes) (buf : List Bytes), ¬ needle salt <:+: (cur ++ payload) →
      iterLines salt limit (splitLines cur (chunk salt i payload c ++ rest)) buf e = .error (.failed e) := by
  intro payload cur buf hno
  obtain ⟨buf', cur', _, h2, h3⟩ := iterLines_chunk_walk limit salt hsl i c e rest payload cur buf hno
  have hp := parseSalted_divider salt cur' i c hs h126 h2
  rw [if_neg (fun h => hi h.1)] at hp
  rw [h3, iterLines_failed _ _ _ hp]

theorem noSalted_iff (salt p : Bytes) : noSalted salt p = true ↔ ¬ needle salt <:+: p := by
  unfold noSalted
  rw [Option.isNone_iff_eq_none, splitFirst_none_iff]

/-- the divider protocol on a stream of chunks followed by bytes without a divider start (`tail`: what
a command that leaves the shell wrote): one output per chunk, `tail` is dropped; the parser fails at the
divider of test 2^64 (the index is parsed as `usize`) -/
theorem iterLines_joinStream_tail (limit : Option Nat) (salt : Bytes) (hs : COLON ∉ salt) (hsl : LF ∉ salt)
    (h126 : (126 : UInt8) ∉ salt) (tail : Bytes) (htail : ¬ needle salt <:+: tail) :
    ∀ (tests : List (Bytes × Nat)) (i : Nat),
      (∀ t ∈ tests, noSalted salt t.1 = true ∧ t.2 < 2 ^ 31) → i ≤ 2 ^ 64 →
      (∀ n, limit = some n → i + tests.length ≤ n) →
      iterLines salt limit (splitLines [] (joinStream salt i tests ++ tail)) [] i =
        if i + tests.length ≤ 2 ^ 64 then .ok (tests.map fun t => (t.1, (t.2 : Int)))
        else .error (.failed (2 ^ 64)) := by
  intro tests
  induction tests with
  | nil =>
    intro i _ hi _
    rw [joinStream, List.nil_append, iterLines_plain salt limit i tail [] [] htail, if_pos (show i + ([] : List (Bytes × Nat)).length ≤ 2 ^ 64 from hi)]
    rfl
  | cons t r ih =>
    intro i hall hi hlim
    obtain ⟨p, c⟩ := t
    have ht := hall (p, c) List.mem_cons_self
    have hno : ¬ needle salt <:+: ([] ++ p) := (noSalted_iff salt p).1 ht.1
    have hlim' : ∀ n, limit = some n → i + 1 + r.length ≤ n := fun n hn => by
      have := hlim n hn; rw [List.length_cons] at this; omega
    rw [joinStream, List.append_assoc, List.length_cons, ← Nat.add_assoc, Nat.add_right_comm]
    by_cases hi' : i < 2 ^ 64
    · rw [iterLines_chunk limit salt hs hsl h126 i c hi' ht.2 (fun n hn => Nat.lt_of_succ_le (Nat.le_trans (Nat.le_add_right _ _) (hlim' n hn)))
          _ p [] [] hno,
        ih (i + 1) (fun t ht' => hall t (List.mem_cons_of_mem _ ht')) hi' hlim']
      by_cases hc : i + 1 + r.length ≤ 2 ^ 64
      · rw [if_pos hc, if_pos hc]; rfl
      · rw [if_neg hc, if_neg hc]
    · have hi2 : i = 2 ^ 64 := Nat.le_antisymm hi (Nat.not_lt.1 hi')
      rw [iterLines_chunk_big limit salt hs hsl h126 i c i hi' _ p [] [] hno, if_neg fun h => hi' (Nat.lt_of_succ_le (Nat.le_trans (Nat.le_add_right _ _) h)), hi2]

/-- `replace_crlf` of a chunk followed by more: only the payload can change (the divider line
carries no CR and starts with `~`, so a CR at the end of the payload does not pair with it) -/
theorem spec_chunk (salt : Bytes) (hsc : Crlf.CR ∉ salt) (i c : Nat) (payload rest : Bytes) :
    Crlf.replaceCrlfSpec (chunk salt i payload c ++ rest) =
      chunk salt i (Crlf.replaceCrlfSpec payload) c ++ Crlf.replaceCrlfSpec rest := by
  have hcr : Crlf.CR ∉ (PREFIX ++ body salt i c) ++ [LF] := by
    rw [List.mem_append, not_or]
    exact ⟨not_mem_divider_line salt i c hsc (by decide +kernel) (by decide +kernel) (by decide),
      by decide +kernel⟩
  have hhead : (((PREFIX ++ body salt i c) ++ [LF]) ++ rest).head? ≠ some Crlf.LF := by
    rw [show (((PREFIX ++ body salt i c) ++ [LF]) ++ rest).head? = some 126 from rfl]
    decide
  rw [chunk_eq, chunk_eq, List.append_assoc, Crlf.spec_append_of_head _ _ hhead,
    Crlf.spec_append_no_cr _ _ hcr]
  simp

theorem iterate_joinStream (limit : Option Nat) (salt : Bytes) (hs : COLON ∉ salt) (hsl : LF ∉ salt)
    (h126 : (126 : UInt8) ∉ salt) (tests : List (Bytes × Nat))
    (hg : ∀ t ∈ tests, noSalted salt t.1 = true ∧ t.2 < 2 ^ 31) (hlen : tests.length ≤ 2 ^ 64)
    (hlim : ∀ n, limit = some n → tests.length ≤ n) :
    iterate salt limit (joinStream salt 0 tests) = .ok (tests.map fun t => (t.1, (t.2 : Int))) := by
  have := iterLines_joinStream_tail limit salt hs hsl h126 [] (fun h => needle_ne_nil salt (List.infix_nil.1 h))
    tests 0 hg (Nat.zero_le _) (by simpa using hlim)
  rw [List.append_nil, Nat.zero_add, if_pos hlen] at this
  exact this

theorem firstSkip_none (skip : Int) : ∀ (l : List (Bytes × Int)) (i : Nat),
    (∀ t ∈ l, t.2 ≠ skip) → firstSkip skip l i = none := by
  intro l
  induction l with
  | nil => intro i _; rfl
  | cons t r ih =>
    intro i h
    obtain ⟨o, c⟩ := t
    have hc : c ≠ skip := h (o, c) (by simp)
    simp only [firstSkip, hc, if_false]
    exact ih _ (fun t ht => h t (by simp [ht]))

theorem executeAll_of_stdout {salt : Bytes} {n : Nat} (combined : Bool) {skip scriptExit : Int}
    {stdout : Bytes} (stderr : Bytes) {outs : List (Bytes × Int)} (hse : scriptExit ≠ skip)
    (hout : iterate salt none stdout = .ok outs) (hskip : ∀ t ∈ outs, t.2 ≠ skip) (hn : outs.length = n) :
    executeAll salt n combined skip scriptExit stdout stderr =
      if combined then .ok (zipErr outs []) else
        match iterate salt (some n) stderr with
        | .error e => ofErr e
        | .ok errs => .ok (zipErr outs errs) := by
  unfold executeAll
  simp only [hse, if_false, hout, firstSkip_none skip outs 0 hskip, hn, ne_eq, not_true_eq_false]
  cases combined with
  | true => rfl
  | false => cases iterate salt (some n) stderr <;> rfl

/-- `zipErr` on outputs that are `f`, `c` of one list: the error bytes found at index `i` (none, if
stderr was not cut) are attached to output `i` -/
theorem zipErr_map {α : Type} (f g : α → Bytes) (c : α → Int) : ∀ (l : List α) (es : List (Bytes × Int)),
    (∀ (i : Nat) (a : α), l[i]? = some a → (es[i]?.map (·.1)).getD [] = g a) →
    zipErr (l.map fun a => (f a, c a)) es = l.map fun a => ⟨f a, g a, c a⟩ := by
  intro l
  induction l with
  | nil => intro es _; rfl
  | cons a l ih =>
    intro es h
    have h0 := h 0 a rfl
    cases es with
    | nil =>
      simp only [List.getElem?_nil, Option.map_none, Option.getD_none] at h0
      simp only [List.map_cons, zipErr, h0,
        ih [] (fun i b hb => by simpa using h (i + 1) b (by simpa using hb))]
    | cons e es =>
      obtain ⟨eb, ec⟩ := e
      simp only [List.getElem?_cons_zero, Option.map_some, Option.getD_some] at h0
      simp only [List.map_cons, zipErr, h0,
        ih es (fun i b hb => by simpa using h (i + 1) b (by simpa using hb))]

/-- separated streams: STDOUT carries payload and exit code, STDERR the payload; the code on the
STDERR dividers (`ec`: since the exit code is taken by `__SCRUT_EXIT_CODE=$?` it is the test's own
code; before, it was that of the preceding `echo`, 0) only has to parse, its value is ignored -/
theorem executeAll_separate (salt : Bytes) (hs : COLON ∉ salt) (hsl : LF ∉ salt) (h126 : (126 : UInt8) ∉ salt)
    (skip scriptExit : Int)
    (tests : List (Bytes × Bytes × Nat)) (ec : Bytes × Bytes × Nat → Nat)
    (hse : scriptExit ≠ skip) (hlen : tests.length ≤ 2 ^ 64)
    (hg : ∀ t ∈ tests, noSalted salt t.1 = true ∧ noSalted salt t.2.1 = true ∧ t.2.2 < 2 ^ 31 ∧ (t.2.2 : Int) ≠ skip)
    (hec : ∀ t ∈ tests, ec t < 2 ^ 31) :
    executeAll salt tests.length false skip scriptExit
        (joinStream salt 0 (tests.map fun t => (t.1, t.2.2)))
        (joinStream salt 0 (tests.map fun t => (t.2.1, ec t))) =
      .ok (tests.map fun t => ⟨t.1, t.2.1, (t.2.2 : Int)⟩) := by
  have hout := iterate_joinStream none salt hs hsl h126 (tests.map fun t => (t.1, t.2.2))
    (List.forall_mem_map.2 fun u hu => ⟨(hg u hu).1, (hg u hu).2.2.1⟩) (by simpa using hlen) (fun _ h => by cases h)
  have herr := iterate_joinStream (some tests.length) salt hs hsl h126 (tests.map fun t => (t.2.1, ec t))
    (List.forall_mem_map.2 fun u hu => ⟨(hg u hu).2.1, hec u hu⟩) (by simpa using hlen)
    (fun _ h => by cases h; simp)
  rw [List.map_map] at hout herr
  rw [executeAll_of_stdout false _ hse hout (List.forall_mem_map.2 fun u hu => (hg u hu).2.2.2) (by simp), herr]
  exact congrArg ExecResult.ok (zipErr_map _ _ _ tests _ fun i a ha => by simp [ha])

theorem scriptLines_append (salt : List Char) (combined : Bool) : ∀ (pre post : List (List Char)) (i : Nat),
    scriptLines salt combined i (pre ++ post) =
      scriptLines salt combined i pre ++ scriptLines salt combined (i + pre.length) post := by
  intro pre
  induction pre with
  | nil => intro post i; simp [scriptLines]
  | cons e es ih =>
    intro post i
    simp only [List.cons_append, scriptLines, ih, List.append_assoc, List.length_cons]
    rw [show i + 1 + es.length = i + (es.length + 1) by omega]

theorem scriptLines_ne_nil (salt : List Char) (combined : Bool) (k : Nat) (e : List Char) (es : List (List Char)) :
    scriptLines salt combined k (e :: es) ≠ [] := by simp [scriptLines, testLines]

theorem qmark_not_mem_dividerText (salt : List Char) (k : Nat) (hs : '?' ∉ salt) :
    '?' ∉ dividerText salt k := by
  have hd : '?' ∉ (dec k).map (fun b => Char.ofNat b.toNat) := by
    intro h
    obtain ⟨b, hb, he⟩ := List.mem_map.1 h
    obtain ⟨d, rfl⟩ := decF_digits _ _ b hb
    rw [digit_toNat] at he
    exact (by decide +kernel : ∀ m, m < 10 → Char.ofNat (48 + m) ≠ '?') (d % 10) (Nat.mod_lt _ (by decide)) he
  have hp : '?' ∉ PREFIX.map (fun b => Char.ofNat b.toNat) := by decide +kernel
  have he : '?' ∉ EXITVAR := by decide +kernel
  simp only [dividerText, List.mem_append, not_or]
  exact ⟨⟨⟨⟨⟨hp, hs⟩, by decide⟩, hd⟩, by decide⟩, he⟩

theorem qmark_not_mem_echo (salt : List Char) (k : Nat) (hs : '?' ∉ salt) :
    '?' ∉ echoLine salt k ∧ '?' ∉ echoErrLine salt k := by
  have h := qmark_not_mem_dividerText salt k hs
  simp only [echoLine, echoErrLine, List.mem_append, not_or]
  exact ⟨⟨⟨by decide, h⟩, by decide⟩, ⟨⟨by decide, h⟩, by decide⟩⟩

theorem scriptLines_qmark (salt : List Char) (combined : Bool) (hs : '?' ∉ salt) :
    ∀ (exprs : List (List Char)) (i : Nat) (l : List Char), l ∈ scriptLines salt combined i exprs → '?' ∈ l →
      l ∈ exprs ∨ l = assignLine := by
  intro exprs
  induction exprs with
  | nil => intro i l h; simp [scriptLines] at h
  | cons e es ih =>
    intro i l h hq
    simp only [scriptLines, List.mem_append] at h
    rcases h with h | h
    · simp only [testLines, List.mem_append, List.mem_cons, List.not_mem_nil, or_false] at h
      rcases h with ((rfl | rfl | rfl | rfl) | h) | rfl
      · exact Or.inl List.mem_cons_self
      · simp at hq
      · exact Or.inr rfl
      · exact absurd hq (qmark_not_mem_echo salt i hs).1
      · split at h
        · cases h
        · rw [List.mem_singleton] at h
          exact absurd (h ▸ hq) (qmark_not_mem_echo salt i hs).2
      · exact absurd hq (by decide +kernel)
    · exact (ih (i + 1) l h hq).imp_left (List.mem_cons_of_mem _)

theorem intercalate_testLines (salt : List Char) (combined : Bool) (k : Nat) (e : List Char) :
    [NL].intercalate (testLines salt combined k e) =
      e ++ [NL, NL] ++ assignLine ++ [NL] ++ echoLine salt k ++ [NL] ++
        (if combined then [] else echoErrLine salt k ++ [NL]) ++ unsetLine := by
  cases combined <;>
    simp only [List.intercalate, testLines, Bool.false_eq_true, if_true, if_false, List.cons_append, List.nil_append,
      List.intersperse_cons_cons, List.intersperse, List.flatten_cons, List.flatten_nil, List.append_nil,
      List.append_assoc]

end Scrut.Divider
