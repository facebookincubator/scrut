import ScrutModel.Model.Newline
namespace Scrut.Newline

theorem splitAux_flatten (bs cur : List UInt8) : (splitAux bs cur).flatten = cur ++ bs := by
  induction bs generalizing cur with
  | nil =>
    simp only [splitAux]
    split
    · rename_i h; simp [List.isEmpty_iff.1 h]
    · simp
  | cons b rest ih =>
    simp only [splitAux]
    split
    · simp [ih]
    · simp [ih]

theorem splitAtNewline_flatten (bs : List UInt8) : (splitAtNewline bs).flatten = bs := by
  simp [splitAtNewline, splitAux_flatten]

theorem splitAux_isLine (bs cur : List UInt8) (hcur : ∀ x ∈ cur, x ≠ LF) :
    ∀ l ∈ splitAux bs cur, IsLine l := by
  induction bs generalizing cur with
  | nil =>
    intro l hl
    simp only [splitAux] at hl
    split at hl
    · simp at hl
    · rename_i hne
      simp at hl
      subst hl
      refine ⟨by intro h; simp [h] at hne, ?_⟩
      intro i hi heq
      exact absurd heq (hcur _ (List.getElem_mem hi))
  | cons b rest ih =>
    intro l hl
    simp only [splitAux] at hl
    split at hl
    · rename_i hb
      simp at hl
      rcases hl with rfl | hl
      · refine ⟨by simp, ?_⟩
        intro i hi heq
        simp at hi
        by_cases hlt : i < cur.length
        · rw [List.getElem_append_left hlt] at heq
          exact absurd heq (hcur _ (List.getElem_mem hlt))
        · simp; omega
      · exact ih [] (by simp) l hl
    · rename_i hb
      exact ih (cur ++ [b]) (by
        intro x hx
        simp at hx
        rcases hx with hx | rfl
        · exact hcur x hx
        · exact hb) l hl

theorem splitAtNewline_isLine (bs : List UInt8) : ∀ l ∈ splitAtNewline bs, IsLine l :=
  splitAux_isLine bs [] (by simp)

end Scrut.Newline
