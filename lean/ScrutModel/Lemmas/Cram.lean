import ScrutModel.Model.Cram
import ScrutModel.Lemmas.LineParser
import ScrutModel.Lemmas.UpdateReread
/-! The Cram loop taken apart (`step_ok`), and the round trip `parseCramTests (render d) = .ok d.tests` for
documents by construction (`runFin_doc`). -/
namespace Scrut.Cram
open Scrut.LineParser

theorem step_ok {expOk : List Char → Bool} {ind : List Char} {s s' : St} {i : Nat} {line : List Char}
    (h : step expOk ind s i line = .ok s') :
    (isComment line = true ∧ s' = s) ∨
    (isComment line = false ∧
      ((line = [] ∧ (s.hasBody = false ∧ s' = s ∨ s.hasBody = true ∧ s.endTestcase i = .ok s')) ∨
       (line ≠ [] ∧
         ((∃ body s1 ct, stripPrefix ind line = some body ∧ s.addBody expOk body i = .ok (s1, ct) ∧
            s' = s1.setConfig TCConfig.defaultCram) ∨
          (stripPrefix ind line = none ∧ ∃ s1, s.endTestcase i = .ok s1 ∧ s' = s1.setTitle line))))) := by
  unfold step at h
  split at h
  · next hc => cases h; exact .inl ⟨hc, rfl⟩
  · next hc =>
    refine .inr ⟨by simpa using hc, ?_⟩
    split at h
    · next he =>
      refine .inl ⟨by simpa using he, ?_⟩
      split at h
      · next hb => exact .inr ⟨hb, h⟩
      · next hb => cases h; exact .inl ⟨by simpa using hb, rfl⟩
    · next he =>
      refine .inr ⟨by simpa using he, ?_⟩
      split at h
      · next body hbody =>
        split at h
        · cases h
        · next s1 ct hs1 => cases h; exact .inl ⟨body, s1, ct, hbody, hs1, rfl⟩
      · next hnone =>
        split at h
        · cases h
        · next s1 hs1 => cases h; exact .inr ⟨hnone, s1, hs1, rfl⟩

theorem run_inv {expOk : List Char → Bool} {ind : List Char} (P : St → Prop) (ls : List (List Char))
    (hstep : ∀ s s' i l, l ∈ ls → P s → step expOk ind s i l = .ok s' → P s') :
    ∀ {s s' : St} {i : Nat}, P s → run expOk ind s i ls = .ok s' → P s' := by
  induction ls with
  | nil => intro s s' i h he; simp only [run] at he; cases he; exact h
  | cons l ls ih =>
    intro s s' i h he
    simp only [run] at he
    split at he
    · cases he
    · next s1 hs1 =>
      exact ih (fun s s' i x hx => hstep s s' i x (List.mem_cons_of_mem _ hx))
        (hstep s s1 i l (List.mem_cons_self ..) h hs1) he

theorem run_append (expOk : List Char → Bool) (ind : List Char) (a b : List (List Char)) (s : St) (i : Nat) :
    run expOk ind s i (a ++ b) =
      (match run expOk ind s i a with
       | .error e => .error e
       | .ok s' => run expOk ind s' (i + a.length) b) := by
  induction a generalizing s i with
  | nil => simp [run]
  | cons l ls ih =>
    simp only [List.cons_append, run]
    cases step expOk ind s i l with
    | error e => rfl
    | ok s1 =>
      have : i + (l :: ls).length = i + 1 + ls.length := by simp; omega
      simp only [ih, this]

theorem finish_ok {s s' : St} {n : Nat} (h : finish s n = .ok s') :
    (s.hasBody = false ∧ s' = s) ∨ (s.setConfig TCConfig.defaultCram).endTestcase n = .ok s' := by
  unfold finish at h
  split at h
  · exact .inr h
  · next hb => cases h; exact .inl ⟨by simpa using hb, rfl⟩

theorem parseLines_ok {expOk : List Char → Bool} {ind : List Char} {ls : List (List Char)} {ts : List Test}
    (h : parseLines expOk ind ls = .ok ts) :
    ∃ s s', run expOk ind (State.new true) 0 ls = .ok s ∧ finish s ls.length = .ok s' ∧ s'.testcases = ts := by
  unfold parseLines at h
  split at h
  · cases h
  · next s hs =>
    split at h
    · cases h
    · next s' hs' => cases h; exact ⟨s, s', hs, hs', rfl⟩

theorem parseCram_ok {expOk : List Char → Bool} {n : Nat} {text : List Char} {dc : DocConfig} {ts : List Test}
    (h : parseCram expOk n text = .ok (dc, ts)) :
    dc = DocConfig.defaultCram ∧ parseLines expOk (indentOf n) (lines text) = .ok ts := by
  unfold parseCram parseCramTests at h
  split at h
  · cases h
  · next ts' hts => cases h; exact ⟨rfl, hts⟩

theorem parseLines_preserves {expOk : List Char → Bool} {ind : List Char} (P : St → Prop) (ls : List (List Char))
    (h0 : P (State.new true))
    (hstep : ∀ s s' i l, l ∈ ls → P s → step expOk ind s i l = .ok s' → P s')
    (hfin : ∀ s s' n, P s → finish s n = .ok s' → P s') {ts : List Test}
    (h : parseLines expOk ind ls = .ok ts) : ∃ s, P s ∧ s.testcases = ts := by
  obtain ⟨s, s', hs, hs', rfl⟩ := parseLines_ok h
  exact ⟨s', hfin s s' _ (run_inv P ls hstep h0 hs) hs', rfl⟩

/-- The engine state written out (`allow_multiple_commands = true`): finished tests `T`, pending title `p`,
command lines `c`, exit code `e`, expectations `x`, `in_command` `b`, `output_start_index` `o`, configuration `k`.
The lemmas about rendered lines take the indentation as `' ' :: ind'`: it is at least one space (`indentOf (n + 1)`);
with no indentation `strip_prefix` succeeds on every line and a title line would be read as a body line. -/
abbrev mk (T : List Test) (p : Option (List Char)) (c : List (List Char)) (e : Option Nat)
    (x : List (List Char)) (b : Bool) (o : Option Nat) (k : Option TCConfig) : St :=
  { testcases := T, title := p, command := c, exitCode := e, expectations := x, inCommand := b,
    allowMultipleCommands := true, outputStartIndex := o, config := k }

/-- the configuration every body line sets -/
abbrev dC : Option TCConfig := some TCConfig.defaultCram

/-- `State.pending` of an open state `mk T p c e x b (some o) dC`, written out -/
abbrev pushed (p : Option (List Char)) (c : List (List Char)) (e : Option Nat) (x : List (List Char))
    (o : Nat) : Test :=
  { title := p.getD [], command := c, exitCode := e, expectations := x, lineNumber := o + 1, config := dC }

section steps
variable (expOk : List Char → Bool) (ind' : List Char)

theorem step_comment (s : St) (i : Nat) (c : List Char) (ind : List Char) :
    step expOk ind s i ('#' :: c) = .ok s := by
  simp [step, isComment]

theorem step_blank_idle (T p b i) (ind : List Char) :
    step expOk ind (mk T p [] none [] b none none) i [] = .ok (mk T p [] none [] b none none) := by
  simp [step, isComment, State.hasBody]

theorem step_blank_open (T p c cs e x b o i) (ind : List Char) :
    step expOk ind (mk T p (c :: cs) e x b (some o) dC) i [] =
      .ok (mk (T ++ [pushed p (c :: cs) e x o]) none [] none [] b none none) := by
  simp [step, isComment, State.hasBody, State.endTestcase, State.flush]

theorem titleOk_facts {ind t : List Char} (h : titleOk ind t = true) :
    isComment t = false ∧ t.isEmpty = false ∧ stripPrefix ind t = none := by
  simp only [titleOk, startsWith, Bool.and_eq_true, Bool.not_eq_true'] at h
  obtain ⟨⟨⟨_, h1⟩, h2⟩, h3⟩ := h
  refine ⟨h2, h1, ?_⟩
  cases hs : stripPrefix ind t with
  | none => rfl
  | some v => simp [hs] at h3

theorem step_title_idle (T p b i) (ind t : List Char) (h : titleOk ind t = true) :
    step expOk ind (mk T p [] none [] b none none) i t = .ok (mk T (some t) [] none [] b none none) := by
  obtain ⟨h1, h2, h3⟩ := titleOk_facts h
  simp [step, h1, h2, h3, State.endTestcase, State.setTitle]

theorem step_title_open (T p c cs e x b o i) (ind t : List Char) (h : titleOk ind t = true) :
    step expOk ind (mk T p (c :: cs) e x b (some o) dC) i t =
      .ok (mk (T ++ [pushed p (c :: cs) e x o]) (some t) [] none [] b none none) := by
  obtain ⟨h1, h2, h3⟩ := titleOk_facts h
  simp [step, h1, h2, h3, State.endTestcase, State.setTitle, State.flush]

theorem step_indented (s : St) (i : Nat) (y : List Char) :
    step expOk (' ' :: ind') s i (' ' :: (ind' ++ y)) =
      match s.addBody expOk y i with
      | .error e => .error e
      | .ok (s', _) => .ok (s'.setConfig TCConfig.defaultCram) := by
  have : stripPrefix (' ' :: ind') (' ' :: (ind' ++ y)) = some y := stripPrefix_append (' ' :: ind') y
  simp only [step, isComment, this, List.isEmpty_cons, Bool.false_eq_true, if_false]
  rfl

theorem expTextOk_facts {t : List Char} (h : expTextOk expOk t = true) :
    expOk t = true ∧ stripPrefix ['$', ' '] t = none ∧ isExitCodeForm t = false := by
  simp only [expTextOk, startsWith, Bool.and_eq_true, Bool.not_eq_true'] at h
  obtain ⟨⟨⟨_, h1⟩, h2⟩, h3⟩ := h
  exact ⟨h1, by simpa using h2, h3⟩

theorem extractExitCode_bracket (ds : List Char) (h : exitOk ds = true) :
    extractExitCode ('[' :: (ds ++ [']'])) = some (digitsVal ds) := by
  simp only [exitOk, Bool.and_eq_true, Bool.not_eq_true', decide_eq_true_eq] at h
  obtain ⟨⟨h1, h2⟩, h3⟩ := h
  simp [extractExitCode, List.reverse_append, h1, h2, h3]

end steps

/-- `run` with `finish` at the end of the lines: the induction over a rendered document then needs no case
for the state the last item leaves behind -/
def runFin (expOk : List Char → Bool) (ind : List Char) : St → Nat → List (List Char) → Except Err St
  | s, i, [] => finish s i
  | s, i, l :: ls =>
    match step expOk ind s i l with
    | .error e => .error e
    | .ok s' => runFin expOk ind s' (i + 1) ls

theorem run_finish_eq (expOk : List Char → Bool) (ind : List Char) (ls : List (List Char)) (s : St) (i : Nat) :
    (match run expOk ind s i ls with
      | .error e => .error e
      | .ok s' => finish s' (i + ls.length)) = runFin expOk ind s i ls := by
  induction ls generalizing s i with
  | nil => simp [run, runFin]
  | cons l ls ih =>
    simp only [run, runFin]
    cases step expOk ind s i l with
    | error e => rfl
    | ok s' =>
      have : i + (l :: ls).length = (i + 1) + ls.length := by simp; omega
      simp only [this]
      exact ih s' (i + 1)

theorem parseLines_eq (expOk : List Char → Bool) (ind : List Char) (ls : List (List Char)) :
    parseLines expOk ind ls = (runFin expOk ind (State.new true) 0 ls).map (·.testcases) := by
  rw [← run_finish_eq]
  simp only [parseLines, Nat.zero_add]
  cases run expOk ind (State.new true) 0 ls with
  | error e => rfl
  | ok s =>
    show (match finish s ls.length with
      | .error e => .error e
      | .ok s => .ok s.testcases) = Except.map (·.testcases) (finish s ls.length)
    cases finish s ls.length <;> rfl

section runs
variable (expOk : List Char → Bool) (ind' : List Char)

theorem runFin_conts (conts : List ContLine) (h : conts.all contLineOk = true) (rest : List (List Char))
    (T p c cs e x o i) :
    runFin expOk (' ' :: ind') (mk T p (c :: cs) e x true (some o) dC) i
        (conts.map (renderCont (' ' :: ind')) ++ rest) =
      runFin expOk (' ' :: ind') (mk T p (c :: (cs ++ contTexts conts)) e x true (some o) dC)
        (i + conts.length) rest := by
  induction conts generalizing cs i with
  | nil => simp [contTexts]
  | cons cl conts ih =>
    simp only [List.all_cons, Bool.and_eq_true] at h
    have e1 : i + (cl :: conts).length = (i + 1) + conts.length := by simp; omega
    cases cl with
    | cont t =>
      simp only [List.map_cons, List.cons_append, renderCont, runFin, step_indented,
        addBody_cont expOk (s := mk T p (c :: cs) e x true (some o) dC) t i rfl (List.cons_ne_nil c cs), contTexts, e1]
      have := ih h.2 (cs ++ [t]) (i + 1)
      rw [List.append_assoc] at this
      exact this
    | comment cm =>
      simp only [List.map_cons, List.cons_append, renderCont, runFin, step_comment, contTexts, e1]
      exact ih h.2 _ _

/-- `b'`: `in_command` behind the body lines; what follows does not depend on it -/
theorem runFin_body (body : List BodyLine) (hok : body.all (bodyLineOk expOk) = true)
    (rest : List (List Char)) (T p c cs) (e : Option Nat) (x) (b : Bool) (o i)
    (hfirst : b = true → firstBodyOk body = true)
    (hex : (exitDigits body).length + (if e.isSome then 1 else 0) ≤ 1) :
    ∃ b', runFin expOk (' ' :: ind') (mk T p (c :: cs) e x b (some o) dC) i
        (body.map (renderBody (' ' :: ind')) ++ rest) =
      runFin expOk (' ' :: ind') (mk T p (c :: cs) (e.or (exitOf body)) (x ++ expTexts body) b' (some o) dC)
        (i + body.length) rest := by
  induction body generalizing e x b i with
  | nil => exact ⟨b, by simp only [exitOf, exitDigits, expTexts, Option.or_none, List.append_nil, List.map_nil,
      List.nil_append, List.length_nil, Nat.add_zero]⟩
  | cons bl body ih =>
    simp only [List.all_cons, Bool.and_eq_true] at hok
    have e1 : i + (bl :: body).length = (i + 1) + body.length := by simp; omega
    cases bl with
    | exp t =>
      have hb : b = true → stripPrefix ['>', ' '] t = none := by
        intro hb
        simpa [firstBodyOk, startsWith] using hfirst hb
      obtain ⟨g1, g2, g3⟩ := expTextOk_facts expOk (t := t) (by simpa [bodyLineOk] using hok.1)
      have hst := addBody_exp expOk (s := mk T p (c :: cs) e x b (some o) dC) i (List.cons_ne_nil c cs)
        (fun _ => g2) hb g3 g1
      obtain ⟨b', hb'⟩ := ih hok.2 e (x ++ [t]) false (i + 1) (by simp) (by simpa [exitDigits] using hex)
      refine ⟨b', ?_⟩
      simp only [List.map_cons, List.cons_append, renderBody, runFin, step_indented, hst, e1]
      rw [show State.setConfig _ TCConfig.defaultCram = mk T p (c :: cs) e (x ++ [t]) false (some o) dC from rfl, hb']
      simp [expTexts, exitOf, exitDigits]
    | exit ds =>
      have he : e = none := by
        cases e with
        | none => rfl
        | some v => simp [exitDigits] at hex
      subst he
      have hst := addBody_exit expOk (s := mk T p (c :: cs) none x b (some o) dC) i (List.cons_ne_nil c cs)
        (extractExitCode_bracket ds (by simpa [bodyLineOk] using hok.1)) rfl
      obtain ⟨b', hb'⟩ := ih hok.2 (some (digitsVal ds)) x false (i + 1) (by simp)
        (by simp [exitDigits] at hex; simp [hex])
      refine ⟨b', ?_⟩
      simp only [List.map_cons, List.cons_append, renderBody, runFin, step_indented, hst, e1]
      rw [show State.setConfig _ TCConfig.defaultCram = mk T p (c :: cs) (some (digitsVal ds)) x false (some o) dC
        from rfl, hb']
      simp [expTexts, exitOf, exitDigits]
    | comment cm =>
      obtain ⟨b', hb'⟩ := ih hok.2 e x b (i + 1) (by simpa [firstBodyOk] using hfirst)
        (by simpa [exitDigits] using hex)
      refine ⟨b', ?_⟩
      simp only [List.map_cons, List.cons_append, renderBody, runFin, step_comment, e1]
      rw [hb']
      simp [expTexts, exitOf, exitDigits]

theorem runFin_doc (d : CramDoc) (hd : d.all (itemOk expOk (' ' :: ind')) = true) :
    (∀ T p b i, (runFin expOk (' ' :: ind') (mk T p [] none [] b none none) i
        (renderLines (' ' :: ind') d)).map (·.testcases) = .ok (T ++ testsFrom p i d)) ∧
    (∀ T p c cs e x b o i, (runFin expOk (' ' :: ind') (mk T p (c :: cs) e x b (some o) dC) i
        (renderLines (' ' :: ind') d)).map (·.testcases) =
          .ok (T ++ pushed p (c :: cs) e x o :: testsFrom none i d)) := by
  induction d with
  | nil =>
    constructor
    · intro T p b i
      exact congrArg Except.ok (List.append_nil T).symm
    · intro T p c cs e x b o i
      rfl
  | cons it rest ih =>
    simp only [List.all_cons, Bool.and_eq_true] at hd
    obtain ⟨ihI, ihO⟩ := ih hd.2
    have hit := hd.1
    cases it with
    | title t =>
      have ht : titleOk (' ' :: ind') t = true := by simpa [itemOk] using hit
      constructor
      · intro T p b i
        simp only [renderLines, renderItem, List.cons_append, List.nil_append, runFin,
          step_title_idle expOk T p b i _ t ht, testsFrom]
        exact ihI T (some t) b (i + 1)
      · intro T p c cs e x b o i
        simp only [renderLines, renderItem, List.cons_append, List.nil_append, runFin,
          step_title_open expOk T p c cs e x b o i _ t ht, testsFrom]
        rw [ihI]
        simp
    | blank =>
      constructor
      · intro T p b i
        simp only [renderLines, renderItem, List.cons_append, List.nil_append, runFin,
          step_blank_idle, testsFrom]
        exact ihI T p b (i + 1)
      · intro T p c cs e x b o i
        simp only [renderLines, renderItem, List.cons_append, List.nil_append, runFin,
          step_blank_open, testsFrom]
        rw [ihI]
        simp
    | comment cm =>
      constructor
      · intro T p b i
        simp only [renderLines, renderItem, List.cons_append, List.nil_append, runFin,
          step_comment, testsFrom]
        exact ihI T p b (i + 1)
      · intro T p c cs e x b o i
        simp only [renderLines, renderItem, List.cons_append, List.nil_append, runFin,
          step_comment, testsFrom]
        exact ihO T p c cs e x b o (i + 1)
    | test t =>
      have ht : testOk expOk t = true := by simpa [itemOk] using hit
      simp only [testOk, Bool.and_eq_true, decide_eq_true_eq] at ht
      obtain ⟨⟨⟨⟨_, hconts⟩, hbody⟩, hfirst⟩, hex⟩ := ht
      -- what happens below the command line, from the state right after the `$` line
      have below : ∀ T' p' i0, (runFin expOk (' ' :: ind') (mk T' p' [t.cmd] none [] true (some i0) dC) (i0 + 1)
          (t.conts.map (renderCont (' ' :: ind')) ++ (t.body.map (renderBody (' ' :: ind')) ++
            renderLines (' ' :: ind') rest))).map (·.testcases) =
          .ok (T' ++ testOf p' i0 t :: testsFrom none (i0 + (1 + t.conts.length + t.body.length)) rest) := by
        intro T' p' i0
        rw [runFin_conts expOk ind' t.conts hconts]
        obtain ⟨b', hb'⟩ := runFin_body expOk ind' t.body hbody (renderLines (' ' :: ind') rest) T' p' t.cmd
          ([] ++ contTexts t.conts) none [] true i0 (i0 + 1 + t.conts.length) (fun _ => hfirst) (by simpa using hex)
        rw [hb', ihO]
        have : i0 + 1 + t.conts.length + t.body.length = i0 + (1 + t.conts.length + t.body.length) := by omega
        simp [testOf, this]
      constructor
      · intro T p b i
        simp only [renderLines, renderItem, renderTest, List.cons_append, List.append_assoc, runFin, testsFrom]
        rw [step_indented, addBody_start_idle expOk (s := mk T p [] none [] b none none) t.cmd i rfl]
        exact below T p i
      · intro T p c cs e x b o i
        simp only [renderLines, renderItem, renderTest, List.cons_append, List.append_assoc, runFin, testsFrom]
        rw [step_indented, addBody_start_open expOk (s := mk T p (c :: cs) e x b (some o) dC) t.cmd i rfl
          (List.cons_ne_nil c cs)]
        exact (below (T ++ [pushed p (c :: cs) e x o]) none i).trans (by simp)

end runs

theorem lines_unlines (ls : List (List Char)) (h : ls.all noNl = true) : lines (unlines ls) = ls := by
  rw [Update.cramLines_eq_splitLines, Update.cramUnlines_eq_unlines]
  exact Update.splitLines_unlines ls fun l hl =>
    Update.clean_of_forall (by simpa [noNl] using List.all_eq_true.mp h l hl)

theorem noNl_append (a b : List Char) : noNl (a ++ b) = (noNl a && noNl b) := by
  simp [noNl, List.all_append]

theorem noNl_indent (n : Nat) : noNl (indentOf n) = true := by
  simp [noNl, indentOf]

theorem noNl_digits (ds : List Char) (h : ds.all isAsciiDigit = true) : noNl ds = true := by
  simp only [noNl, List.all_eq_true] at h ⊢
  intro c hc
  have := h c hc
  simp only [isAsciiDigit, Bool.and_eq_true, decide_eq_true_eq] at this
  have h1 : c ≠ '\n' := by intro h; subst h; revert this; decide
  have h2 : c ≠ '\r' := by intro h; subst h; revert this; decide
  simp [h1, h2]

theorem renderLines_noNl (expOk : List Char → Bool) (ind : List Char) (hi : noNl ind = true) (d : CramDoc)
    (h : d.all (itemOk expOk ind) = true) : (renderLines ind d).all noNl = true := by
  induction d with
  | nil => simp [renderLines]
  | cons it rest ih =>
    simp only [List.all_cons, Bool.and_eq_true] at h
    have ihr := ih h.2
    simp only [renderLines, List.all_append, Bool.and_eq_true]
    refine ⟨?_, ihr⟩
    have hit := h.1
    cases it with
    | title t =>
      simp only [itemOk, titleOk, Bool.and_eq_true] at hit
      simp [renderItem, hit.1.1.1]
    | blank => simp [renderItem, noNl]
    | comment c =>
      simp only [itemOk] at hit
      simpa [renderItem, noNl] using hit
    | test t =>
      simp only [itemOk, testOk, Bool.and_eq_true, decide_eq_true_eq] at hit
      obtain ⟨⟨⟨⟨hcmd, hconts⟩, hbody⟩, _⟩, _⟩ := hit
      simp only [renderItem, renderTest, List.all_cons, List.all_append, Bool.and_eq_true]
      refine ⟨?_, ?_, ?_⟩
      · rw [noNl_append, hi]; simpa [noNl] using hcmd
      · rw [List.all_map, List.all_eq_true]
        intro cl hcl
        have := (List.all_eq_true.mp hconts) cl hcl
        cases cl with
        | cont x =>
          simp only [contLineOk] at this
          simp only [Function.comp, renderCont]
          rw [noNl_append, hi]; simpa [noNl] using this
        | comment x =>
          simp only [contLineOk] at this
          simpa [Function.comp, renderCont, noNl] using this
      · rw [List.all_map, List.all_eq_true]
        intro bl hbl
        have := (List.all_eq_true.mp hbody) bl hbl
        cases bl with
        | exp x =>
          simp only [bodyLineOk, expTextOk, Bool.and_eq_true] at this
          simp only [Function.comp, renderBody]
          rw [noNl_append, hi, this.1.1.1]; rfl
        | exit ds =>
          simp only [bodyLineOk, exitOk, Bool.and_eq_true] at this
          have hd := noNl_digits ds this.1.2
          simp only [Function.comp, renderBody]
          rw [noNl_append, hi]
          simp only [noNl, List.all_cons, List.all_append, Bool.true_and] at hd ⊢
          simp [hd]
        | comment x =>
          simp only [bodyLineOk] at this
          simpa [Function.comp, renderBody, noNl] using this

/-- the indentation is at least one space: with none, `strip_prefix` succeeds on every line and a title would be
read as a body line -/
theorem parse_render (expOk : List Char → Bool) (n : Nat) (d : CramDoc) (h : docOk expOk (n + 1) d = true) :
    parseCramTests expOk (n + 1) (render (n + 1) d) = .ok d.tests := by
  have hl := lines_unlines _ (renderLines_noNl expOk _ (noNl_indent (n + 1)) d h)
  simp only [parseCramTests, render, hl, parseLines_eq]
  have hi : indentOf (n + 1) = ' ' :: List.replicate n ' ' := by simp [indentOf, List.replicate_succ]
  rw [hi]
  have := (runFin_doc expOk (List.replicate n ' ') d (by simpa [docOk, hi] using h)).1 [] none false 0
  have hn : (State.new true : St) = mk [] none [] none [] false none none := rfl
  rw [hn]
  simpa [CramDoc.tests] using this

theorem parseCram_render (expOk : List Char → Bool) (n : Nat) (d : CramDoc) (h : docOk expOk (n + 1) d = true) :
    parseCram expOk (n + 1) (render (n + 1) d) = .ok (DocConfig.defaultCram, d.tests) := by
  simp [parseCram, parse_render expOk n d h]

theorem titles_nearest (d : CramDoc) (p l : Option (List Char)) (i : Nat) (seen fresh : Bool)
    (h1 : seen = false → p = none ∧ l = none) (h2 : fresh = true → p = l)
    (h : ownTitles seen fresh d = true) :
    (testsFrom p i d).map (·.title) = nearestTitles l d := by
  induction d generalizing p l i seen fresh with
  | nil => simp [testsFrom, nearestTitles]
  | cons it rest ih =>
    cases it with
    | title t =>
      simp only [testsFrom, nearestTitles]
      exact ih (some t) (some t) (i + 1) true true (by simp) (by simp) (by simpa [ownTitles] using h)
    | blank =>
      simp only [testsFrom, nearestTitles]
      exact ih p l (i + 1) seen fresh h1 h2 (by simpa [ownTitles] using h)
    | comment c =>
      simp only [testsFrom, nearestTitles]
      exact ih p l (i + 1) seen fresh h1 h2 (by simpa [ownTitles] using h)
    | test t =>
      simp only [ownTitles, Bool.and_eq_true, Bool.or_eq_true, Bool.not_eq_true'] at h
      simp only [testsFrom, nearestTitles, List.map_cons, testOf]
      have hhead : p.getD [] = l.getD [] := by
        rcases h.1 with hs | hf
        · obtain ⟨a, b⟩ := h1 hs; simp [a, b]
        · rw [h2 hf]
      rw [hhead, ih none l _ seen false (fun hs => ⟨rfl, (h1 hs).2⟩) (by simp) h.2]

end Scrut.Cram
