import ScrutModel.Lemmas.EscapingPieces
/-!
# C11: what is written reads back as the line it was written for, and as nothing else
-/
namespace Scrut.EscLemmas
open Scrut.Utf8 Scrut.Esc Scrut.EscF Scrut.Rules

theorem written_cases (m : Mode) (isOther : Char → Bool) (hC : m = .unicode → AsciiContract isOther)
    (bs : List UInt8) (hlf : NoLF bs) :
    ((written m isOther bs).1 = .equal ∧ utf8 (written m isOther bs).2 = bs) ∨
    ((written m isOther bs).1 = .escaped ∧ Tok (written m isOther bs).2 bs) := by
  cases hk : (written m isOther bs).1 with
  | escaped => exact .inr ⟨rfl, (written_rep m isOther hC bs hlf hk).tok⟩
  | equal =>
    refine .inl ⟨rfl, ?_⟩
    rw [written_snd]
    apply utf8_of_lossyEq
    cases hl : lossyEq bs (escapedPrintable m isOther bs) with
    | true => rfl
    | false => simp [written, hl] at hk

theorem lossless_core (k : Kind) (t : List Char) (bs : List UInt8) (hlf : bs.getLast? ≠ some 10)
    (h : (k = .equal ∧ utf8 t = bs) ∨ (k = .escaped ∧ Tok t bs ∧ endsWithNoEol t = false)) :
    readBack k t (bs ++ [10]) = some true ∧
    (k = .escaped → readBack k t bs = some true) ∧
    ∀ line, readBack k t line = some true → trimNewlines line = bs := by
  rcases h with ⟨hk, hu⟩ | ⟨hk, ht, hg⟩
  · have hlast : (utf8 t).getLast? ≠ some 10 := hu ▸ hlf
    rw [hk]
    simp only [readBack, Option.some.injEq, equal_iff' _ _ hlast, hu, true_and]
    refine ⟨fun h => Kind.noConfusion h, ?_⟩
    intro line hline
    rw [hline, trimNewlines_append_lf, trimNewlines_of_last _ hlf]
  · have hm : escapedMake t = some bs := by
      rw [escapedMake_eq_decode _ hg]; exact ht.decode_eq
    rw [hk]
    simp only [readBack, escaped_iff _ _ _ hm]
    refine ⟨by rw [trimNewlines_append_lf, trimNewlines_of_last _ hlf], fun _ => trimNewlines_of_last _ hlf, fun _ h => h⟩

/-- the unguarded rendering reads back whenever it does not end in ` (no-eol)` (the text scrut
writes is `writtenText`, see `C11_lossless` for the unconditional statement) -/
theorem lossless (m : Mode) (isOther : Char → Bool) (hC : m = .unicode → AsciiContract isOther)
    (bs : List UInt8) (hlf : NoLF bs)
    (hg : (written m isOther bs).1 = .escaped → endsWithNoEol (written m isOther bs).2 = false) :
    readBack (written m isOther bs).1 (written m isOther bs).2 (bs ++ [10]) = some true ∧
    ((written m isOther bs).1 = .escaped →
      readBack (written m isOther bs).1 (written m isOther bs).2 bs = some true) ∧
    ∀ line, readBack (written m isOther bs).1 (written m isOther bs).2 line = some true →
      trimNewlines line = bs := by
  apply lossless_core _ _ _ hlf.getLast
  rcases written_cases m isOther hC bs hlf with ⟨hk, hu⟩ | ⟨hk, ht⟩
  · exact Or.inl ⟨hk, hu⟩
  · exact Or.inr ⟨hk, ht, hg hk⟩

end Scrut.EscLemmas
