import ScrutModel.Model.StateFile
namespace Scrut.StateFile

theorem source_funcs (s : St) (he : s.extglob = true) (ha : s.aliases = []) (fs : List Fn) (rest : List Line) :
    source s (fs.map .defFn ++ rest) = source { s with funcs := s.funcs ++ fs } rest := by
  induction fs generalizing s with
  | nil => simp
  | cons f r ih =>
    have hok : ¬ ((f.needsExtglob && !s.extglob) || s.aliases.contains f.name) = true := by simp [he, ha]
    rw [List.map_cons, List.cons_append, source, if_neg hok, ih { s with funcs := s.funcs ++ [f] } he ha]
    simp

theorem source_aliases (s : St) (as : List Nat) (rest : List Line) :
    source s (as.map .defAlias ++ rest) = source { s with aliases := s.aliases ++ as } rest := by
  induction as generalizing s with
  | nil => simp
  | cons x r ih =>
    simp only [List.map_cons, List.cons_append, source]
    rw [ih]
    simp

theorem source_vars (s : St) (ha : s.allexport = false) (vs : List Var) (rest : List Line) :
    source s (vs.map .setVar ++ rest) = source { s with vars := s.vars ++ vs } rest := by
  induction vs generalizing s with
  | nil => simp
  | cons v r ih =>
    rw [List.map_cons, List.cons_append, source, ih { s with vars := s.vars ++ [{ v with exported := v.exported || s.allexport }] } ha]
    simp [ha]

/-- without `errexit` every command of the sub-shell runs -/
theorem runCmds_all (cs : List Cmd) : (runCmds false cs).1 = (cs.map (·.out)).flatten := by
  induction cs with
  | nil => simp [runCmds]
  | cons c r ih => simp [runCmds, ih]

theorem runCmds_ok (e : Bool) (cs : List Cmd) (h : ∀ c ∈ cs, c.status = 0) :
    runCmds e cs = ((cs.map (·.out)).flatten, 0) := by
  induction cs with
  | nil => simp [runCmds]
  | cons c r ih =>
    have hc : c.status = 0 := h c (by simp)
    have hr := ih (fun c hc => h c (by simp [hc]))
    simp [runCmds, hc, hr]

theorem hookCmds_ok (s : St) : ∀ c ∈ hookCmds s, c.status = 0 := by
  intro c hc
  simp [hookCmds] at hc
  rcases hc with rfl | rfl | rfl | rfl | rfl <;> rfl

theorem hookCmds_out (s : St) : ((hookCmds s).map (·.out)).flatten = persist s := by
  simp [hookCmds, persist]

end Scrut.StateFile
