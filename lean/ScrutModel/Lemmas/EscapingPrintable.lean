import ScrutModel.Lemmas.EscapingRoundTrip
import ScrutModel.Lemmas.RulesStr
/-!
# C11: what counts as printable, and the written text is printable
-/
namespace Scrut.EscLemmas
open Scrut.Utf8 Scrut.Esc Scrut.EscF Scrut.Rules

/-- the contract on `char::is_other()` used by the unicode-mode theorems: on ASCII it is exactly
the control characters (category Cc: 0x00..0x1f and 0x7f) -/
def AsciiContract (isOther : Char → Bool) : Prop :=
  ∀ c : Char, c.toNat < 0x80 → (isOther c = true ↔ (c.toNat < 0x20 ∨ c.toNat = 0x7f))

def PrintableAscii (c : Char) : Prop := 0x20 ≤ c.toNat ∧ c.toNat ≤ 0x7e

instance (c : Char) : Decidable (PrintableAscii c) := by unfold PrintableAscii; infer_instance

theorem printableByte_iff (b : UInt8) : printableByte b = true ↔ 0x20 ≤ b.toNat ∧ b.toNat ≤ 0x7e := by
  simp [printableByte]

theorem printable_of_hasUnprintable {bs : List UInt8} (h : hasUnprintableAscii bs = false) :
    ∀ b ∈ bs, 0x20 ≤ b.toNat ∧ b.toNat ≤ 0x7e := by
  intro b hb
  simp only [hasUnprintableAscii, List.any_eq_false, Bool.not_eq_true, Bool.not_eq_false'] at h
  exact (printableByte_iff b).mp (h b hb)

theorem utf8Decode_printable {bs : List UInt8} (h : hasUnprintableAscii bs = false) :
    utf8Decode bs = some (asciiText bs) :=
  utf8Decode_ascii bs (fun b hb => by have := printable_of_hasUnprintable h b hb; omega)

theorem lossyEq_printable {bs : List UInt8} (h : hasUnprintableAscii bs = false) :
    lossyEq bs (asciiText bs) = true := by
  simp [lossyEq, utf8Decode_printable h]

theorem utf8_of_lossyEq {bs : List UInt8} {e : List Char} (h : lossyEq bs e = true) : utf8 e = bs := by
  unfold lossyEq at h
  split at h
  · rename_i cs hd
    have : cs = e := by simpa using h
    subst this
    exact utf8Decode_sound bs cs hd
  · simp at h

theorem written_snd (m : Mode) (isOther : Char → Bool) (t : List UInt8) :
    (written m isOther t).2 = escapedPrintable m isOther t := by
  unfold written
  simp only
  split <;> rfl

/-- the first byte of an `is_other` character is not printable: a control character, or not ASCII -/
theorem hasUnprintable_of_other {isOther : Char → Bool} (hC : AsciiContract isOther) (c : Char)
    (h : isOther c = true) : hasUnprintableAscii (String.utf8EncodeChar c) = true := by
  obtain ⟨b, r, e⟩ := List.exists_cons_of_ne_nil (String.utf8EncodeChar_ne_nil (c := c))
  have hb : ¬ (0x20 ≤ b.toNat ∧ b.toNat ≤ 0x7e) := by
    by_cases hlt : c.toNat < 0x80
    · have hc := (hC c hlt).mp h
      rw [utf8EncodeChar_of_lt c hlt] at e
      rw [← (List.cons.inj e).1, tn _ (by omega)]
      omega
    · have := utf8EncodeChar_ge c (by omega) b (e ▸ List.mem_cons_self ..)
      omega
  rw [e, hasUnprintableAscii, List.any_cons, Bool.or_eq_true, Bool.not_eq_true', ← Bool.not_eq_true,
    printableByte_iff]
  exact .inl hb

theorem utf8EncodeChar_backslash : String.utf8EncodeChar '\\' = [92] := by decide +kernel

theorem mem_utf8 {c : Char} {cs : List Char} (hc : c ∈ cs) : ∀ b ∈ String.utf8EncodeChar c, b ∈ utf8 cs := by
  intro b hb
  simp only [utf8, List.mem_flatMap]
  exact ⟨c, hc, hb⟩

theorem renderText_of_no_other {isOther : Char → Bool} (cs : List Char) (h : cs.any isOther = false) :
    renderText isOther cs = cs := by
  unfold renderText
  rw [h]
  have : ∀ l : List Char, (l.any isOther = false) → l.flatMap (Esc.renderChar isOther false) = l := by
    intro l
    induction l with
    | nil => simp
    | cons a l ih =>
      intro hl
      simp only [List.any_cons, Bool.or_eq_false_iff] at hl
      simp [Esc.renderChar, hl.1, ih hl.2]
  exact this cs h

theorem ofNat_printable (v : Nat) (h1 : 32 ≤ v) (h2 : v ≤ 126) : PrintableAscii (Char.ofNat v) := by
  unfold PrintableAscii
  rw [toNat_ofNat v (by omega)]
  exact ⟨h1, h2⟩

theorem byteToAsciiN_printable (v : Nat) (hv : v < 256) : ∀ c ∈ byteToAsciiN v, PrintableAscii c := by
  have hbs : PrintableAscii '\\' := by decide
  rcases byteToAsciiN_cases v with ⟨l, hl, e⟩ | ⟨h1, h2, -, e⟩ | ⟨-, e⟩
  all_goals
    rw [e]
    simp only [List.mem_cons, List.not_mem_nil, or_false, forall_eq_or_imp, forall_eq]
  · have g := (escLetters_render _ hl).2
    exact ⟨hbs, g.lo, g.hi⟩
  · exact ofNat_printable v h1 h2
  · have g1 := hexChar_graphic (v / 16) (by omega)
    have g2 := hexChar_graphic (v % 16) (by omega)
    exact ⟨hbs, by decide, ⟨g1.lo, g1.hi⟩, g2.lo, g2.hi⟩

theorem marker_printable : ∀ c ∈ marker, PrintableAscii c := by decide +kernel

theorem x20NoEolLit_printable : ∀ c ∈ x20NoEolLit, PrintableAscii c := by decide +kernel

theorem escapedPrintableAscii_printable (bs : List UInt8) : ∀ c ∈ escapedPrintableAscii bs, PrintableAscii c := by
  intro c hc
  unfold escapedPrintableAscii at hc
  split at hc
  · simp only [encodeAscii, List.mem_flatMap] at hc
    obtain ⟨b, _, hb⟩ := hc
    exact byteToAsciiN_printable b.toNat b.toNat_lt c hb
  · rename_i hu
    simp only [asciiText, List.mem_map] at hc
    obtain ⟨b, hb, rfl⟩ := hc
    have := printable_of_hasUnprintable (by simpa using hu) b hb
    exact ofNat_printable _ this.1 this.2

theorem mem_guardTailingNoEol {c : Char} {e : List Char} (h : c ∈ guardTailingNoEol e) :
    c ∈ e ∨ c ∈ x20NoEolLit := by
  unfold guardTailingNoEol at h
  split at h
  · rcases List.mem_append.mp h with h | h
    · exact Or.inl (List.mem_of_mem_take h)
    · exact Or.inr h
  · exact Or.inl h

theorem escapedExpectation_all {P : Char → Prop} {m : Mode} {isOther : Char → Bool} {line : List UInt8}
    (hw : ∀ c ∈ escapedPrintable m isOther (trimNewlines line), P c)
    (hx : ∀ c ∈ x20NoEolLit, P c) (hm : ∀ c ∈ marker, P c) :
    ∀ c ∈ escapedExpectation m isOther line, P c := by
  intro c hc
  rw [← written_snd] at hw
  unfold escapedExpectation at hc
  split at hc
  · rename_i e he; rw [he] at hw; exact hw c hc
  · rename_i e he; rw [he] at hw
    rcases List.mem_append.mp hc with h | h
    · rcases mem_guardTailingNoEol h with h | h
      · exact hw c h
      · exact hx c h
    · exact hm c h

theorem ascii_printable (isOther : Char → Bool) (line : List UInt8) :
    ∀ c ∈ escapedExpectation .ascii isOther line, PrintableAscii c :=
  escapedExpectation_all (escapedPrintableAscii_printable _) x20NoEolLit_printable marker_printable

theorem not_other_of_printable {isOther : Char → Bool} (hC : AsciiContract isOther) {c : Char}
    (h : PrintableAscii c) : isOther c = false := by
  unfold PrintableAscii at h
  cases ho : isOther c with
  | false => rfl
  | true =>
    have := (hC c (by omega)).mp ho
    omega

theorem renderText_not_other {isOther : Char → Bool} (hC : AsciiContract isOther) (cs : List Char) :
    ∀ c ∈ renderText isOther cs, isOther c = false := by
  intro c hc
  simp only [renderText, List.mem_flatMap] at hc
  obtain ⟨a, _, ha⟩ := hc
  unfold renderChar at ha
  split at ha
  · exact not_other_of_printable hC (escapedPrintableAscii_printable _ c ha)
  · rename_i hno
    split at ha
    · have : c = '\\' := by simpa using ha
      subst this
      exact not_other_of_printable hC (by decide)
    · have : c = a := by simpa using ha
      subst this
      simpa using hno

theorem unicode_printable (isOther : Char → Bool) (hC : AsciiContract isOther) (line : List UInt8) :
    ∀ c ∈ escapedExpectation .unicode isOther line, isOther c = false := by
  refine escapedExpectation_all ?_ (fun c h => not_other_of_printable hC (x20NoEolLit_printable c h))
    (fun c h => not_other_of_printable hC (marker_printable c h))
  intro c hc
  simp only [escapedPrintable, escapedPrintableUnicode] at hc
  split at hc
  · exact renderText_not_other hC _ c hc
  · exact not_other_of_printable hC (escapedPrintableAscii_printable _ c hc)

end Scrut.EscLemmas
