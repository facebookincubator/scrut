import ScrutModel.Lemmas.UpdateRunExitFirst
/-!
# The document `update` writes parses, and the second update changes nothing

Whether the parser accepts a token does not depend on what it has read before: the state between two tokens is
always `Clean`.  The tokens of the written document are those of the original, with accepted configurations and
code lines that read as one test; every test read from it is the original test rewritten, passes on its run and
is written back as it stands: the second update generates the same texts.
-/
namespace Scrut.UpdateRun
open Scrut Scrut.TestRun Scrut.Markdown Scrut.Update Scrut.LineParser Scrut.GenLemmas Scrut.EscLemmas

/-- lines that the line parser (between two tests) accepts as one test -/
def LinesParse (expOk : Markdown.Line → Bool) (ls : List Markdown.Line) : Prop :=
  ∃ (c0 : Markdown.Line) (more after : List Markdown.Line),
    ls = ('$' :: ' ' :: c0) :: (more.map contLine ++ after) ∧ NotCont after ∧
    (∀ e ∈ expLines after, expOk e = true ∧ isExitCodeForm e = false) ∧ (exitCodes after).length ≤ 1

/-- what makes the parser accept a token, whatever it has read before -/
def TokOk (env : Env) : Tok → Prop
  | .line _ _ => True
  | .docConfig ls => env.docCfgOk (joinNumbered ls ++ ['\n']) = true
  | .verbatim _ lang _ => lang.isEmpty = false
  | .test _ cfg _ cd => (cfg.isEmpty = true ∨ env.testCfgOk (joinNumbered cfg) = true) ∧
      (cd = [] ∨ LinesParse env.expOk (cd.map (·.2)))

theorem stepTok_ok_iff (env : Env) (st : PState) (hc : Markdown.Clean st.lp) (t : Tok) :
    (∃ st', stepTok env st t = .ok st') ↔ TokOk env t := by
  cases t with
  | line i l =>
    simp only [stepTok, TokOk, iff_true]
    split <;> exact ⟨_, rfl⟩
  | docConfig ls =>
    -- the one test `stepTok` makes here is `docCfgOk` of the text
    simp only [stepTok, TokOk]
    split <;> simp [*]
  | verbatim s lang ls =>
    -- a foreign block fails only if it names no language
    simp only [stepTok, TokOk]
    split <;> simp [*]
  | test lang cfg cm cd =>
    have hclean : ∀ c, Markdown.Clean (st.lp.setConfig c) := fun c => ⟨hc.cmd, hc.exps, hc.code, hc.osi, hc.amc⟩
    simp only [stepTok, TokOk, testCfg_eq]
    by_cases hcfg : cfg.isEmpty = true ∨ env.testCfgOk (joinNumbered cfg) = true
    · simp only [hcfg, if_true, true_and]
      cases cd with
      | nil => simp [addAll]
      | cons x rest =>
        simp only [reduceCtorEq, false_or, List.map_cons]
        constructor
        · rintro ⟨st', h⟩
          split at h
          · cases h
          · next lp hlp =>
            obtain ⟨c0, more, after, hcode, hn, hexp, hcodes, _⟩ :=
              (addAll_block_iff env.expOk x.1 x.2 rest _ lp (hclean _)).mp hlp
            exact ⟨c0, more, after, hcode, hn, hexp, hcodes⟩
        · rintro ⟨c0, more, after, hcode, hn, hexp, hcodes⟩
          rw [(addAll_block_iff env.expOk x.1 x.2 rest _ _ (hclean _)).mpr
            ⟨c0, more, after, hcode, hn, hexp, hcodes, rfl⟩]
          cases hl : (x :: rest).getLast? with
          | none => simp at hl
          | some li =>
            simp only []
            rw [endTestcase_push]
            · exact ⟨_, rfl⟩
            · simp [belowState]
    · simp only [hcfg, if_false, false_and, reduceCtorEq, exists_false]

theorem parseTokens_ok_iff (env : Env) : ∀ (toks : List Tok) (st : PState), Markdown.Clean st.lp →
    ((∃ fin, parseTokens env st toks = .ok fin) ↔ ∀ t ∈ toks, TokOk env t)
  | [], st, _ => by simp [parseTokens]
  | t :: r, st, hc => by
    rw [List.forall_mem_cons, ← stepTok_ok_iff env st hc t]
    simp only [parseTokens]
    cases h1 : stepTok env st t with
    | error e => simp
    | ok st2 =>
      simp only [Except.ok.injEq, exists_eq', true_and]
      exact parseTokens_ok_iff env r st2 (stepTok_inv env st st2 hc t h1).1

theorem tokOk_reread {gens : List (Option (List Char))} {k : Nat} {toks toks' : List Tok}
    (h : Reread gens k toks toks') (hok : ∀ t ∈ toks, TokOk parseEnv t)
    (hcw : cfgTexts toks' = (cfgsOf toks).map writtenCfg)
    (hgens : ∀ (j : Nat) (g : List Char), gens[j]? = some (some g) → LinesParse expOk (splitLines g)) :
    ∀ t ∈ toks', TokOk parseEnv t := by
  induction h with
  | nil k => intro t ht; cases ht
  | line k i i' l r r' _ ih =>
    rw [List.forall_mem_cons] at hok ⊢
    exact ⟨trivial, ih hok.2 (by simpa only [cfgTexts, cfgsOf] using hcw)⟩
  | front k ls ls' r r' hl _ ih =>
    rw [List.forall_mem_cons] at hok ⊢
    exact ⟨rfl, ih hok.2 (by simpa only [cfgTexts, cfgsOf] using hcw)⟩
  | verbatim k s s' lang ls r r' _ ih =>
    rw [List.forall_mem_cons] at hok ⊢
    exact ⟨hok.1, ih hok.2 (by simpa only [cfgTexts, cfgsOf] using hcw)⟩
  | testNoCode k lang cfg cfg' cm cm' r r' _ _ _ ih =>
    rw [List.forall_mem_cons] at hok ⊢
    simp only [cfgTexts, cfgsOf, List.map_cons, List.cons.injEq] at hcw
    exact ⟨⟨testCfgOk_written hcw.1 hok.1.1, Or.inl rfl⟩, ih hok.2 hcw.2⟩
  | testCode k lang cfg cfg' cm cm' cd cd' g r r' hcd hgk _ _ hcd' hne' _ ih =>
    rw [List.forall_mem_cons] at hok ⊢
    simp only [cfgTexts, cfgsOf, List.map_cons, List.cons.injEq] at hcw
    exact ⟨⟨testCfgOk_written hcw.1 hok.1.1, Or.inr (hcd' ▸ hgens k g hgk)⟩, ih hok.2 hcw.2⟩

theorem parseMarkdown_ok_iff (text : List Char) :
    (∃ p, parseMarkdown parseEnv text = .ok p) ↔ ∀ t ∈ docToks text, TokOk parseEnv t := by
  rw [← parseTokens_ok_iff parseEnv (docToks text) {} ⟨rfl, rfl, rfl, rfl, rfl⟩]
  unfold parseMarkdown parseLines
  rw [show tokenize parseEnv.languages (splitLines text) = .ok (docToks text) from tokenize_docToks text]
  cases h : parseTokens parseEnv {} (docToks text) <;> simp [h]

theorem expOk_of_compile {o : Markdown.Line} {e : CExp} (h : compile o = .ok e) : expOk o = true := by
  unfold compile compileWith at h
  unfold expOk
  cases hp : Grammar.parse grammarParams o with
  | error x => simp [hp] at h
  | ok x => rfl

section
variable {isOther : Char → Bool} {content : List Char} {runs : List Ran} {text : List Char}
  {results : List Gen.UpdResult} {tests : List UTest} {os : List (Gen.UpdResult × Option (List Char))}

/-- exit code 0..`i32::MAX`: the line parser reads `[code]` as an exit code line only if the number fits an `i32`
(`exitLine_exit_i32`); the statements of C10 pass the 0..255 of a process exit status -/
theorem Updated.gens_parse (hC : AsciiContract isOther) (hu : Updated isOther content runs text results tests os)
    (hcr : NoStrayCR content) (hcodes : ∀ r ∈ runs, 0 ≤ r.code ∧ r.code ≤ i32Max) (hq : QuantFree content results) :
    ∀ (j : Nat) (g : List Char), (os.map (·.2))[j]? = some (some g) → LinesParse expOk (splitLines g) := by
  obtain ⟨p, hp, _, hprep⟩ := docTests_spec hu.tests_eq
  have hb : Pairs (fun b tc => BlockOf parseEnv.expOk b.1 b.2 tc) (testBlocks (docToks content)) p.tests :=
    (parseLines_inv parseEnv (splitLines content) p hp).2
  intro j g hgj
  rw [List.getElem?_map] at hgj
  cases hoj : os[j]? with
  | none => simp [hoj] at hgj
  | some o =>
    simp only [hoj, Option.map_some, Option.some.injEq] at hgj
    obtain ⟨u, r, huj, hr, hot⟩ := judgeAll_get hu.judged hoj
    rw [show o = (o.1, some g) by rw [← hgj]] at hot
    obtain ⟨t, htj, hprepj⟩ := hprep.get' j u huj
    obtain ⟨b, hbj, hblk⟩ := hb.get' j t htj
    have hclean := docToks_code_clean hcr b (List.mem_of_getElem? hbj)
    obtain ⟨newOrigs, c0, more, hw, _, hsplit, hnoexit⟩ := outcome_block_lines hC hblk hclean hprepj hot
    obtain ⟨hcode0, hcode1⟩ := hcodes r (List.mem_of_getElem? hr)
    obtain ⟨newExps, hne, _⟩ := hw.passes (prepareU_compiled hprepj).1 (by
      rintro ⟨d, hd⟩
      refine hq tests hu.tests_eq j u d huj ?_
      rw [hu.results_eq, List.getElem?_map, hoj, Option.map_some, hd])
    have hnoexit' : ∀ o ∈ newOrigs, extractExitCode o = none :=
      fun o h => extractExitCode_of_not_form (hnoexit o h)
    refine ⟨c0, more, afterLines newOrigs r.code, by rw [hsplit]; simp, afterLines_notCont newOrigs r.code, ?_, ?_⟩
    · rw [expLines_afterLines newOrigs hnoexit' r.code hcode0 hcode1]
      intro e he
      obtain ⟨i, hi, rfl⟩ := List.getElem_of_mem he
      obtain ⟨x, _, hx⟩ := hne.get i _ (List.getElem?_eq_getElem hi)
      exact ⟨expOk_of_compile hx, hnoexit _ he⟩
    · rw [exitCodes_afterLines newOrigs hnoexit' r.code hcode0 hcode1]
      split <;> simp

theorem Updated.written_parses (hC : AsciiContract isOther) (hu : Updated isOther content runs text results tests os)
    (hcr : NoStrayCR content) (hcodes : ∀ r ∈ runs, 0 ≤ r.code ∧ r.code ≤ i32Max) (hq : QuantFree content results) :
    ∃ p', parseMarkdown parseEnv text = .ok p' := by
  obtain ⟨hrr, hcw⟩ := hu.reread hcr
  obtain ⟨p, hp, _, _⟩ := docTests_spec hu.tests_eq
  exact (parseMarkdown_ok_iff text).mpr
    (tokOk_reread hrr ((parseMarkdown_ok_iff content).mp ⟨p, hp⟩) hcw (hu.gens_parse hC hcr hcodes hq))

end

theorem run_idempotent {isOther : Char → Bool} (hC : AsciiContract isOther) {content : List Char}
    {runs : List Ran} {text : List Char} {results : List Gen.UpdResult}
    (h : updateDocument isOther content runs = .updated text results)
    (hcr : NoStrayCR content) (hcodes : ∀ r ∈ runs, 0 ≤ r.code ∧ r.code ≤ i32Max) (hq : QuantFree content results) :
    ∃ rs, updateDocument isOther text runs = .unchanged rs := by
  obtain ⟨tests, os, hu⟩ := updated_spec h
  obtain ⟨p, hp, hharm, hprep⟩ := docTests_spec hu.tests_eq
  obtain ⟨p', hp'⟩ := hu.written_parses hC hcr hcodes hq
  obtain ⟨hlen, hdc, hall⟩ := hu.aligned hcr hp hp'
  -- every test of the written document is prepared, passes, and its text is the text written
  have key : ∀ (j : Nat) (t' : TestCase Cfg), p'.tests[j]? = some t' →
      ∃ u' r g, prepareU t' = .ok u' ∧ runs[j]? = some r ∧ (os.map (·.2))[j]? = some (some g) ∧
        Passes u' r ∧ passText u' = some g := by
    intro j t' ht'j
    obtain ⟨t, u, r, res, g, b, b', ha, huj, hoj⟩ := hall j t' ht'j
    obtain ⟨u', hu', _, hps, hpt⟩ := reread_test hC ha (hcodes r (List.mem_of_getElem? ha.run))
      (by rintro ⟨d, rfl⟩; exact hq tests hu.tests_eq j u d huj ha.result)
    exact ⟨u', r, g, hu', ha.run, by rw [List.getElem?_map, hoj]; rfl, hps, hpt⟩
  obtain ⟨tests', hpairs⟩ := pairs_of_forall (R := fun t u => prepareU t = .ok u) p'.tests (by
    intro t' ht'
    obtain ⟨j, hj, rfl⟩ := List.getElem_of_mem ht'
    obtain ⟨u', _, _, hu', _⟩ := key j _ (List.getElem?_eq_getElem hj)
    exact ⟨u', hu'⟩)
  have ht' : docTests text = some tests' := by
    have hh : (!p'.docConfigs.all frontMatterHarmless) = false := by rw [hdc, hharm]; rfl
    simp only [docTests, hp', hh, Bool.false_eq_true, if_false, pairs_mapM_except prepareU hpairs]
  have hcount : tests'.length = tests.length := by rw [← hpairs.length_eq, ← hprep.length_eq]; exact hlen
  have key' : ∀ (j : Nat) (u' : UTest), tests'[j]? = some u' →
      ∃ r g, runs[j]? = some r ∧ (os.map (·.2))[j]? = some (some g) ∧ Passes u' r ∧ passText u' = some g := by
    intro j u' hu'
    obtain ⟨t', ht'j, hprep'j⟩ := hpairs.get' j u' hu'
    obtain ⟨u'', r, g, hu'', hr, hg, hps, hpt⟩ := key j t' ht'j
    rw [hprep'j] at hu''
    cases hu''
    exact ⟨r, g, hr, hg, hps, hpt⟩
  -- so the second run generates the same texts
  apply run_idempotent_of_same_texts h hcr
  rw [hu.gens_eq]
  have hj' := judgeAll_passes isOther tests' runs (by rw [hcount]; exact hu.runs_le)
    (fun i u' r hu' hr => by
      obtain ⟨r', g, hr', _, hps, _⟩ := key' i u' hu'
      rw [hr] at hr'
      cases hr'
      exact hps)
  simp only [docGens, docOutcomes, ht', hj', Option.map_some, Option.some.injEq, List.map_map]
  apply List.ext_getElem?
  intro i
  rw [List.getElem?_map]
  cases hi : tests'[i]? with
  | none =>
    have : (os.map (·.2))[i]? = none := by
      rw [List.getElem?_eq_none_iff] at hi ⊢
      rw [List.length_map, hu.length, ← hcount]
      exact hi
    rw [this]; rfl
  | some u' =>
    obtain ⟨_, g, _, hgi, _, hpt⟩ := key' i u' hi
    rw [hgi, Option.map_some]
    exact congrArg some hpt

end Scrut.UpdateRun
