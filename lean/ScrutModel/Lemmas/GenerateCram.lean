import ScrutModel.Lemmas.GenerateMarkdown
import ScrutModel.Lemmas.GeneratePrintable
import ScrutModel.Lemmas.CramInv
/-!
# C09, the last hop for Cram: the document `scrut create --format cram` prints is parsed back as
one test with the command, the generated expectation lines and the exit code

`cramDoc (generateTestcase …)` is every line of the generated text behind two blanks; that is the
rendering (`Cram.render 2`) of a document that consists of ONE test of `C07_wellformed`'s grammar.
-/
namespace Scrut.GenLemmas
open Scrut.Utf8 Scrut.Esc Scrut.EscLemmas Scrut.Gen Scrut.LineParser
open Scrut.Update (unlines unlines_append)

theorem unlines_eq_joinNl : ∀ (ls : List (List Char)), ls ≠ [] → unlines ls = Gen.joinNl ls ++ ['\n']
  | [], h => absurd rfl h
  | [l], _ => by simp [unlines, Gen.joinNl]
  | l :: l2 :: rest, _ => by
    have := unlines_eq_joinNl (l2 :: rest) (by simp)
    simp only [unlines, List.flatMap_cons] at this ⊢
    simp only [Gen.joinNl]
    rw [this]
    simp

theorem cramIndented_unlines (indent : List Char) (ls : List (List Char)) (hne : ls ≠ [])
    (hnl : ∀ l ∈ ls, '\n' ∉ l) :
    cramIndented indent (unlines ls) = Cram.unlines (ls.map (indent ++ ·)) := by
  have hu := unlines_eq_joinNl ls hne
  have hnotempty : (unlines ls).isEmpty = false := by rw [hu]; simp
  have hstrip : stripSuffix? ['\n'] (unlines ls) = some (Gen.joinNl ls) := by
    rw [hu]
    simp [stripSuffix?, List.isSuffixOf_iff_suffix]
  unfold cramIndented
  simp only [hnotempty, Bool.false_eq_true, if_false, hstrip]
  rw [Update.splitOnNl_eq_splitNl, splitNl_joinNl ls hne hnl, Update.cramUnlines_eq_unlines, unlines_eq_joinNl _ (by simpa using hne)]

/-- the exit code line below the expectations -/
def exitBody (code : Int) : List Cram.BodyLine := if code ≠ 0 then [.exit (showInt code)] else []

/-- the one test of the generated Cram document -/
def createTestItem (c0 : List Char) (more ts : List (List Char)) (code : Int) : Cram.TestItem :=
  { cmd := c0, conts := more.map .cont, body := ts.map .exp ++ exitBody code }

theorem noNl_iff (t : List Char) : Cram.noNl t = true ↔ ∀ c ∈ t, c ≠ '\n' ∧ c ≠ '\r' := by
  simp [Cram.noNl]

theorem generated_lines_cram (ind c0 : List Char) (more ts : List (List Char)) (code : Int) :
    ((('$' :: ' ' :: c0) :: more.map (fun x => '>' :: ' ' :: x)) ++ ts ++ exitLines code).map
        (ind ++ ·)
      = Cram.renderLines (ind) [.test (createTestItem c0 more ts code)] := by
  have hx : (exitLines code).map (ind ++ ·)
      = (exitBody code).map (Cram.renderBody (ind)) := by
    unfold exitLines exitBody
    split <;> simp [Cram.renderBody]
  have h1 : more.map (fun x => ind ++ '>' :: ' ' :: x)
      = (more.map Cram.ContLine.cont).map (Cram.renderCont (ind)) := by
    simp [List.map_map, Function.comp_def, Cram.renderCont]
  have h2 : ts.map (fun x => ind ++ x)
      = (ts.map Cram.BodyLine.exp).map (Cram.renderBody (ind)) := by
    simp [List.map_map, Function.comp_def, Cram.renderBody]
  simp only [Cram.renderLines, Cram.renderItem, Cram.renderTest, createTestItem, List.append_nil,
    List.map_append, List.map_cons, List.cons_append]
  rw [← h1, ← h2, ← hx]
  simp [List.map_map, Function.comp_def]

theorem exitOk_toDigits (n : Nat) (h : n ≤ i32Max) : Cram.exitOk (Nat.toDigits 10 n) = true := by
  simp [Cram.exitOk, toDigits_isEmpty, toDigits_allDigit, digitsVal_toDigits, h]

theorem exitDigits_body (ts : List (List Char)) (code : Int) :
    Cram.exitDigits (ts.map Cram.BodyLine.exp ++ exitBody code)
      = if code ≠ 0 then [showInt code] else [] := by
  induction ts with
  | nil =>
    unfold exitBody
    split <;> simp [Cram.exitDigits]
  | cons t r ih => simpa [Cram.exitDigits] using ih

theorem expTexts_body (ts : List (List Char)) (code : Int) :
    Cram.expTexts (ts.map Cram.BodyLine.exp ++ exitBody code) = ts := by
  induction ts with
  | nil =>
    unfold exitBody
    split <;> simp [Cram.expTexts]
  | cons t r ih => simp [Cram.expTexts, ih]

theorem contTexts_conts (more : List (List Char)) : Cram.contTexts (more.map Cram.ContLine.cont) = more := by
  induction more with
  | nil => rfl
  | cons t r ih => simp [Cram.contTexts, ih]

/-- the generated test satisfies the guard of `C07_wellformed` -/
theorem createTestItem_ok (expOk : List Char → Bool) (c0 : List Char) (more ts : List (List Char))
    (hcmd : ∀ l ∈ c0 :: more, ∀ c ∈ l, c ≠ '\n' ∧ c ≠ '\r') (hts : ∀ t ∈ ts, TextOK expOk t)
    (code : Int) (h0 : 0 ≤ code) (h1 : code ≤ i32Max) (n : Nat) :
    Cram.docOk expOk n [.test (createTestItem c0 more ts code)] = true := by
  have hex : ∀ b ∈ exitBody code, Cram.bodyLineOk expOk b = true := by
    intro b hb
    unfold exitBody at hb
    split at hb
    · have : b = .exit (showInt code) := by simpa using hb
      subst this
      rw [showInt_nonneg h0]
      exact exitOk_toDigits code.toNat (by omega)
    · cases hb
  have hbody : ∀ b ∈ ts.map Cram.BodyLine.exp ++ exitBody code, Cram.bodyLineOk expOk b = true := by
    intro b hb
    rcases List.mem_append.mp hb with h | h
    · obtain ⟨t, ht, rfl⟩ := List.mem_map.mp h
      have ok := hts t ht
      have hs : Cram.startsWith ['$', ' '] t = false := by
        simp [Cram.startsWith, (commandLead_none_strip ok.no_lead).1]
      simp [Cram.bodyLineOk, Cram.expTextOk, (noNl_iff t).mpr ok.no_ctl, ok.exp_ok, hs, ok.no_exit]
    · exact hex b h
  have hfirst : Cram.firstBodyOk (ts.map Cram.BodyLine.exp ++ exitBody code) = true := by
    cases ts with
    | nil =>
      unfold exitBody
      split <;> simp [Cram.firstBodyOk]
    | cons t r =>
      have ok := hts t (by simp)
      simp [Cram.firstBodyOk, Cram.startsWith, (commandLead_none_strip ok.no_lead).2]
  have hlen : (Cram.exitDigits (ts.map Cram.BodyLine.exp ++ exitBody code)).length ≤ 1 := by
    rw [exitDigits_body]
    split <;> simp
  have hconts : (more.map Cram.ContLine.cont).all Cram.contLineOk = true := by
    simp only [List.all_eq_true, List.mem_map]
    rintro x ⟨t, ht, rfl⟩
    exact (noNl_iff t).mpr (hcmd t (by simp [ht]))
  simp only [Cram.docOk, List.all_cons, List.all_nil, Bool.and_true, Cram.itemOk, Cram.testOk,
    createTestItem, (noNl_iff c0).mpr (hcmd c0 (by simp)), hconts, hfirst, Bool.true_and, Bool.and_eq_true,
    decide_eq_true_eq, List.all_eq_true]
  exact ⟨hbody, hlen⟩

theorem create_cram_parses (expOk : List Char → Bool) (c0 : List Char) (more ts : List (List Char))
    (hcmd : ∀ l ∈ c0 :: more, ∀ c ∈ l, c ≠ '\n' ∧ c ≠ '\r') (hts : ∀ t ∈ ts, TextOK expOk t)
    (code : Int) (h0 : 0 ≤ code) (h1 : code ≤ i32Max) :
    Cram.parseCram expOk 2 (cramDoc
        (unlines (('$' :: ' ' :: c0) :: more.map (fun x => '>' :: ' ' :: x)) ++ unlines ts ++ exitCodeOpt code))
      = .ok (Cram.DocConfig.defaultCram,
          [{ title := []
             command := c0 :: more
             exitCode := if code ≠ 0 then some code.toNat else none
             expectations := ts
             lineNumber := 1
             config := some Cram.TCConfig.defaultCram }]) := by
  have hg : unlines (('$' :: ' ' :: c0) :: more.map (fun x => '>' :: ' ' :: x)) ++ unlines ts ++ exitCodeOpt code
      = unlines ((('$' :: ' ' :: c0) :: more.map (fun x => '>' :: ' ' :: x)) ++ ts ++ exitLines code) := by
    rw [exitCodeOpt_unlines, ← unlines_append, ← unlines_append]
  have hlines_nl : ∀ l ∈ ((('$' :: ' ' :: c0) :: more.map (fun x => '>' :: ' ' :: x)) ++ ts ++ exitLines code),
      '\n' ∉ l := by
    intro l hl
    simp only [List.cons_append, List.mem_cons, List.mem_append, List.mem_map] at hl
    rcases hl with rfl | (⟨x, hx, rfl⟩ | hl) | hl
    · have : '\n' ∉ c0 := fun hm => (hcmd c0 (by simp) _ hm).1 rfl
      simp [this]
    · have : '\n' ∉ x := fun hm => (hcmd x (by simp [hx]) _ hm).1 rfl
      simp [this]
    · exact fun hm => ((hts l hl).no_ctl _ hm).1 rfl
    · exact fun hm => (exitLines_ctl code l hl _ hm).1 rfl
  rw [hg]
  unfold cramDoc
  have hind : ([' ', ' '] : List Char) = Cram.indentOf 2 := rfl
  rw [hind, cramIndented_unlines _ _ (by simp) hlines_nl, generated_lines_cram]
  have hw := Cram.parseCram_render expOk 1 [.test (createTestItem c0 more ts code)]
    (createTestItem_ok expOk c0 more ts hcmd hts code h0 h1 2)
  have hr : Cram.render (1 + 1) [.test (createTestItem c0 more ts code)]
      = Cram.unlines (Cram.renderLines (Cram.indentOf 2) [.test (createTestItem c0 more ts code)]) := rfl
  rw [← hr, hw]
  have hexit : Cram.exitOf (ts.map Cram.BodyLine.exp ++ exitBody code)
      = if code ≠ 0 then some code.toNat else none := by
    unfold Cram.exitOf
    rw [exitDigits_body]
    by_cases hc : code = 0
    · simp [hc]
    · simp only [ne_eq, hc, not_false_eq_true, if_true]
      rw [showInt_nonneg h0, digitsVal_toDigits]
  simp only [Cram.CramDoc.tests, Cram.testsFrom, Cram.testOf, createTestItem, hexit, expTexts_body,
    contTexts_conts]
  rfl

theorem create_cram_end_to_end {P : Grammar.Params} (hP : StdParams P) (m : Esc.Mode) (isOther : Char → Bool)
    (hC : m = .unicode → AsciiContract isOther) (expOk : List Char → Bool)
    (hexp : ∀ t e, Grammar.parse P t = .ok e → expOk t = true)
    (cfg : ConfigDiff) (c0 : List Char) (more : List (List Char)) (hlines : ∀ l ∈ c0 :: more, '\n' ∉ l)
    (hcr : ∀ l ∈ c0 :: more, '\r' ∉ l)
    (out : List UInt8) (code : Int) (h0 : 0 ≤ code) (h1 : code ≤ i32Max) :
    ∃ doc ts, create .cram m isOther cfg (Gen.joinNl (c0 :: more)) out code = some doc ∧
      ts.length = (Newline.splitAtNewline out).length ∧
      (∀ i (h : i < (Newline.splitAtNewline out).length),
        expectationLine m isOther (Newline.splitAtNewline out)[i] = ts[i]?) ∧
      Cram.parseCram expOk 2 doc
        = .ok (Cram.DocConfig.defaultCram,
            [{ title := []
               command := c0 :: more
               exitCode := if code ≠ 0 then some code.toNat else none
               expectations := ts
               lineNumber := 1
               config := some Cram.TCConfig.defaultCram }]) := by
  obtain ⟨ts, hlen, hget, hts, htsok⟩ :=
    generated_texts hP m isOther hC hexp _ (Newline.splitAtNewline_isLine out)
  have hcmd : ∀ l ∈ c0 :: more, ∀ c ∈ l, c ≠ '\n' ∧ c ≠ '\r' :=
    fun l hl c hc => ⟨fun e => hlines l hl (e ▸ hc), fun e => hcr l hl (e ▸ hc)⟩
  refine ⟨_, ts, ?_, hlen, hget, create_cram_parses expOk c0 more ts hcmd htsok code h0 h1⟩
  unfold create
  rw [generateTestcase_create m isOther _ _ out code (expression_lines c0 more hlines), hts]
  rfl

end Scrut.GenLemmas
