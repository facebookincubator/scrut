import ScrutModel.Lemmas.EscapingRoundTrip
/-!
# The documented grammar of `(escaped)` expressions, and the two-pass decoder
-/
namespace Scrut.EscLemmas
open Scrut.Utf8 Scrut.Esc Scrut.EscF

/-- the documented reading of an escaped expression: `\xHH` (two hex digits), `\0OO` (two octal
digits), `\\`, the control letters, any other `\c` stays `\c`, everything else is its UTF-8 -/
inductive Unescape : List Char → List UInt8 → Prop
  | nil : Unescape [] []
  | lit (c : Char) (r : List Char) (bs : List UInt8) : c ≠ '\\' → Unescape r bs →
      Unescape (c :: r) (String.utf8EncodeChar c ++ bs)
  | hex (h1 h2 : Char) (a b : Nat) (r : List Char) (bs : List UInt8) :
      hexVal h1 = some a → hexVal h2 = some b → Unescape r bs →
      Unescape ('\\' :: 'x' :: h1 :: h2 :: r) (UInt8.ofNat (a * 16 + b) :: bs)
  | oct (o1 o2 : Char) (a b : Nat) (r : List Char) (bs : List UInt8) :
      octVal o1 = some a → octVal o2 = some b → Unescape r bs →
      Unescape ('\\' :: '0' :: o1 :: o2 :: r) (UInt8.ofNat (a * 8 + b) :: bs)
  | backslash (r : List Char) (bs : List UInt8) : Unescape r bs → Unescape ('\\' :: '\\' :: r) (92 :: bs)
  | ctl (d : Char) (v : UInt8) (r : List Char) (bs : List UInt8) : ctlVal d = some v → Unescape r bs →
      Unescape ('\\' :: d :: r) (v :: bs)
  | other (d : Char) (r : List Char) (bs : List UInt8) :
      d ≠ 'x' → d ≠ '0' → d ≠ '\\' → ctlVal d = none → Unescape r bs →
      Unescape ('\\' :: d :: r) (92 :: (String.utf8EncodeChar d ++ bs))

theorem Unescape.tok {e : List Char} {bs : List UInt8} (h : Unescape e bs) : Tok e bs := by
  induction h with
  | nil => exact Tok.nil
  | lit c r bs hc _ ih => exact Tok.append (Tok.char hc) ih
  | hex h1 h2 a b r bs ha hb _ ih => exact Tok.append (Tok.hex ha hb) ih
  | oct o1 o2 a b r bs ha hb _ ih => exact Tok.append (Tok.oct ha hb) ih
  | backslash r bs _ ih => exact Tok.append Tok.backslash ih
  | ctl d v r bs hv _ ih => exact Tok.append (Tok.ctl hv) ih
  | other d r bs hx h0 hb hc _ ih => exact Tok.append (Tok.other hx h0 hb hc) ih

theorem decode_of_Unescape {e : List Char} {bs : List UInt8} (h : Unescape e bs) : decode e = some bs :=
  h.tok.decode_eq

end Scrut.EscLemmas
