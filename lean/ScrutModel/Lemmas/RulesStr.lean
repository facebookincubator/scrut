import ScrutModel.Model.RulesStr
import ScrutModel.Lemmas.Utf8
import ScrutModel.Lemmas.Basic
/-!
# What the string rules match (for C04 and C11)
-/
namespace Scrut.Rules
open Scrut.Utf8 Scrut.Esc Scrut.EscF

/-- a line after `trim_newlines` of a piece of `split_at_newline`: no line feed inside -/
def NoLF (bs : List UInt8) : Prop := ∀ b ∈ bs, b.toNat ≠ 10

instance (bs : List UInt8) : Decidable (NoLF bs) := by unfold NoLF; infer_instance

theorem trimNewlines_append_lf (bs : List UInt8) : trimNewlines (bs ++ [10]) = trimNewlines bs := by
  simp [trimNewlines]

theorem trimNewlines_of_last (bs : List UInt8) (h : bs.getLast? ≠ some 10) : trimNewlines bs = bs :=
  reverse_dropWhile_of_getLast 10 bs h

theorem NoLF.getLast {bs : List UInt8} (h : NoLF bs) : bs.getLast? ≠ some 10 := by
  intro hl
  have := List.mem_of_getLast? hl
  exact h 10 this (by decide)

theorem trimNewlines_noLF {bs : List UInt8} (h : NoLF bs) : trimNewlines bs = bs :=
  trimNewlines_of_last bs h.getLast

theorem equal_iff' (e : List Char) (line : List UInt8) (h : (utf8 e).getLast? ≠ some 10) :
    equalMatches e line = true ↔ line = utf8 e ++ [10] := by
  have : endsInNewline (utf8 e) = false := by simpa [endsInNewline] using h
  simp only [equalMatches, assureNewline, this, beq_iff_eq]
  exact ⟨fun h => h.symm, fun h => by simp [h]⟩

theorem noeol_iff (e : List Char) (line : List UInt8) : noEolMatches e line = true ↔ line = utf8 e := by
  simp only [noEolMatches, beq_iff_eq]
  exact eq_comm

theorem escaped_iff_make (e : List Char) (line : List UInt8) :
    (escapedMake e).map (escapedMatches · line) = some true ↔ escapedMake e = some (trimNewlines line) := by
  cases escapedMake e <;> simp [escapedMatches]

theorem escaped_iff (e : List Char) (bs line : List UInt8) (h : escapedMake e = some bs) :
    (escapedMake e).map (escapedMatches · line) = some true ↔ trimNewlines line = bs := by
  rw [escaped_iff_make, h, Option.some.injEq]
  exact eq_comm

theorem stripNoEol_of_not (e : List Char) (h : endsWithNoEol e = false) : stripNoEol e = e := by
  simp [stripNoEol, h]

theorem stripNoEol_append (e : List Char) : stripNoEol (e ++ noEolSuffix) = e := by
  have : endsWithNoEol (e ++ noEolSuffix) = true := by
    simp [endsWithNoEol, List.isSuffixOf_iff_suffix]
  simp [stripNoEol, this]

theorem escapedMake_eq_decode (e : List Char) (h : endsWithNoEol e = false) : escapedMake e = decode e := by
  simp [escapedMake, stripNoEol_of_not e h]

theorem lf_of_mem_utf8EncodeChar (c : Char) (h : (10 : UInt8) ∈ String.utf8EncodeChar c) : c = '\n' := by
  by_cases hc : c.toNat < 0x80
  · rw [utf8EncodeChar_of_lt c hc, List.mem_singleton] at h
    have := congrArg UInt8.toNat h
    rw [tn _ (by omega)] at this
    exact Char.ext (UInt32.toNat_inj.mp this.symm)
  · exact absurd (utf8EncodeChar_ge c (by omega) 10 h) (by decide)

theorem utf8_last_ne_lf (e : List Char) (h : '\n' ∉ e) : (utf8 e).getLast? ≠ some 10 := by
  intro hl
  have hm := List.mem_of_getLast? hl
  simp only [utf8, List.mem_flatMap] at hm
  obtain ⟨c, hc, hb⟩ := hm
  exact h (lf_of_mem_utf8EncodeChar c hb ▸ hc)

/-- **equal** (C04): for an expression without line feed the expectation matches exactly the
expression followed by one line feed -/
theorem equal_iff (e : List Char) (line : List UInt8) (h : '\n' ∉ e) :
    equalMatches e line = true ↔ line = utf8 e ++ [10] :=
  equal_iff' e line (utf8_last_ne_lf e h)

/-- **escaped** (C04), in terms of the decoder: with `decode (stripNoEol e) = some bs` the
expectation matches `line` iff the content of the line is `bs` -/
theorem escaped_matches_iff (e : List Char) (bs line : List UInt8) (h : decode (stripNoEol e) = some bs) :
    (escapedMake e).map (escapedMatches · line) = some true ↔ trimNewlines line = bs :=
  escaped_iff e bs line h

theorem escaped_err (e : List Char) (line : List UInt8) (h : decode (stripNoEol e) = none) :
    (escapedMake e).map (escapedMatches · line) = none := by
  simp [escapedMake, h]

end Scrut.Rules
