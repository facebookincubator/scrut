import ScrutModel.Lemmas.Generate
import ScrutModel.Lemmas.LineParser
import ScrutModel.Lemmas.DiffC03iff
import ScrutModel.Props.C03
/-!
# C09: the test `scrut create` writes accepts the output it was written from (composition)
-/
namespace Scrut.GenLemmas
open Scrut.Utf8 Scrut.Esc Scrut.EscLemmas Scrut.Rules Scrut.Gen Scrut.Diff
open Scrut.Grammar (Params parse)

/-- the expectation that the line written for output line `l` parses to -/
def genExp (P : Params) (m : Mode) (isOther : Char → Bool) (l : List UInt8) : Option Grammar.Expectation :=
  match expectationLine m isOther l with
  | none => none
  | some t => match parse P t with
    | .ok e => some e
    | .error _ => none

/-- does the expectation generated for line `i` of `ls` match line `j` of `ls`? -/
def matchMatrix (P : Params) (m : Mode) (isOther : Char → Bool) (ls : List (List UInt8)) (i j : Nat) : Bool :=
  match ls[i]?, ls[j]? with
  | some li, some lj =>
    match genExp P m isOther li with
    | some e => strRuleMatches e.kind e.expr lj
    | none => false
  | _, _ => false

/-- the quantifiers of the generated expectations, as the matcher sees them -/
def genQuant (P : Params) (m : Mode) (isOther : Char → Bool) (ls : List (List UInt8)) (i : Nat) : Diff.Exp :=
  match ls[i]? with
  | some li =>
    match genExp P m isOther li with
    | some e => ⟨e.optional, e.multiline⟩
    | none => ⟨false, false⟩
  | none => ⟨false, false⟩

theorem genExp_ok {P : Params} (hP : StdParams P) (m : Mode) (isOther : Char → Bool)
    (hC : m = .unicode → AsciiContract isOther) {l : List UInt8} (hl : Newline.IsLine l) :
    ∃ e, genExp P m isOther l = some e ∧ e.optional = false ∧ e.multiline = false ∧
      strRuleMatches e.kind e.expr l = true := by
  obtain ⟨t, ht, hok⟩ := line_ok hP m isOther hC hl
  obtain ⟨e, he, h1, h2, _, h4⟩ := hok.parses
  exact ⟨e, by simp [genExp, ht, he], h1, h2, h4⟩

theorem genQuant_none {P : Params} (hP : StdParams P) (m : Mode) (isOther : Char → Bool)
    (hC : m = .unicode → AsciiContract isOther) (ls : List (List UInt8)) (hls : ∀ l ∈ ls, Newline.IsLine l)
    (i : Nat) : genQuant P m isOther ls i = ⟨false, false⟩ := by
  unfold genQuant
  cases hi : ls[i]? with
  | none => rfl
  | some li =>
    obtain ⟨e, he, h1, h2, _⟩ := genExp_ok hP m isOther hC (hls li (List.mem_of_getElem? hi))
    simp [he, h1, h2]

theorem matchMatrix_diag {P : Params} (hP : StdParams P) (m : Mode) (isOther : Char → Bool)
    (hC : m = .unicode → AsciiContract isOther) (ls : List (List UInt8)) (hls : ∀ l ∈ ls, Newline.IsLine l)
    (i : Nat) (hi : i < ls.length) : matchMatrix P m isOther ls i i = true := by
  unfold matchMatrix
  obtain ⟨e, he, _, _, h4⟩ := genExp_ok hP m isOther hC (hls _ (List.getElem_mem hi))
  simp [List.getElem?_eq_getElem hi, he, h4]

theorem create_no_diff {P : Params} (hP : StdParams P) (m : Mode) (isOther : Char → Bool)
    (hC : m = .unicode → AsciiContract isOther) (ls : List (List UInt8)) (hls : ∀ l ∈ ls, Newline.IsLine l) :
    hasDiff (diff ls.length ls.length (genQuant P m isOther ls) (matchMatrix P m isOther ls)) = false :=
  Scrut.Props.C03.C03_own_lines _ _ _ (genQuant_none hP m isOther hC ls hls)
    (fun i hi => matchMatrix_diag hP m isOther hC ls hls i hi)

theorem expectationLines_some (m : Mode) (isOther : Char → Bool)
    (hC : m = .unicode → AsciiContract isOther) (ls : List (List UInt8)) (hls : ∀ l ∈ ls, Newline.IsLine l) :
    ∃ ts : List (List Char), ts.length = ls.length ∧
      (∀ i (h : i < ls.length), expectationLine m isOther ls[i] = ts[i]?) ∧
      expectationLines m isOther ls = some (ts.flatMap (· ++ ['\n'])) := by
  induction ls with
  | nil => exact ⟨[], rfl, by intro i h; simp at h, rfl⟩
  | cons l ls ih =>
    obtain ⟨ts, hlen, hget, hts⟩ := ih (fun x hx => hls x (List.mem_cons_of_mem _ hx))
    -- only that the line is written is used here: any grammar parameters do
    obtain ⟨t, ht, _⟩ := line_ok (stdParams_std (fun _ => none) (fun _ => none)) m isOther hC (hls l (by simp))
    refine ⟨t :: ts, by simp [hlen], ?_, ?_⟩
    · intro i h
      cases i with
      | zero => simpa using ht
      | succ i => simpa using hget i (by simpa using h)
    · simp [expectationLines, ht, hts]

theorem showInt_nonneg {c : Int} (h0 : 0 ≤ c) : showInt c = Nat.toDigits 10 c.toNat := by
  simp [showInt, Int.not_lt.mpr h0]

theorem exitCode_roundtrip_i32 (c : Int) (h0 : 0 ≤ c) (h1 : c ≤ LineParser.i32Max) :
    LineParser.extractExitCode (['['] ++ showInt c ++ [']']) = some c.toNat := by
  rw [showInt_nonneg h0]
  exact LineParser.extractExitCode_toDigits c.toNat (by omega)

theorem exitCodeLine_eq (c : Int) : exitCodeLine c = (['['] ++ showInt c ++ [']']) ++ ['\n'] := by
  simp [exitCodeLine]

/-- all three branches of `generate_testcase` that `create` can reach write the same thing: the
command, one expectation line per line of the validated stream, and `[code]` iff `code ≠ 0` -/
theorem generateTestcase_create (m : Mode) (isOther : Char → Bool) (cmd ex : List Char)
    (out : List UInt8) (code : Int) (hex : expression cmd = some ex) :
    generateTestcase m isOther cmd (createResult out code) out code =
      (expectationLines m isOther (Newline.splitAtNewline out)).map (fun e => ex ++ e ++ exitCodeOpt code) := by
  unfold generateTestcase createResult
  simp only [hex]
  by_cases hc : code = 0
  · subst hc
    cases hs : Newline.splitAtNewline out with
    | nil => simp [expectationLines, exitCodeOpt]
    | cons l ls => simp
  · simp [hc, exitCodeOpt]

theorem diff_no_expectations (n : Nat) (es : Nat → Diff.Exp) (mt : Nat → Nat → Bool) :
    diff 0 n es mt = if 0 < n then [DL.unexpected (rangeFrom 0 n)] else [] := by
  have hl : loop 0 n es mt 0 0 none [] = (0, 0, none, []) := by
    rw [loop]; simp
  simp [diff, hl, unmatchedOf, rangeFrom]

end Scrut.GenLemmas
