import ScrutModel.Lemmas.DiffBasic

namespace Scrut.Diff

variable (n m : Nat) (es : Nat → Exp) (mt : Nat → Nat → Bool)

def DL.Good (d : DL) : Prop :=
  match d with
  | .matched i ls => i < n ∧ ls ≠ [] ∧ (∀ l ∈ ls, l < m ∧ mt i l = true) ∧ ((es i).multiline = false → ls.length = 1)
  | .unmatched i => i < n ∧ (es i).optional = false
  | .unexpected ls => ls ≠ []

/-- Invariant of `loop`. The frontier `ms.getD li` is the first line that `acc` does not account for yet:
`li` itself or, while expectation `ei` holds a run, the start `s` of that run (its lines `s ≤ l < li`
all match `ei` and are recorded when the run is closed). Below the frontier every line, and below `ei`
every expectation that is not optional, is mentioned exactly once and in order. -/
structure LInv (ei li : Nat) (ms : Option Nat) (acc : List DL) : Prop where
  li_le : li ≤ m
  ei_le : ei ≤ n
  cover : linesOf acc = rangeFrom 0 (ms.getD li)
  open_ : ∀ s, ms = some s → s < li ∧ ei < n ∧ (es ei).multiline = true ∧ ∀ l, s ≤ l → l < li → mt ei l = true
  idx_lt : ∀ i ∈ idxOf acc, i < ei
  idx_sorted : (idxOf acc).Pairwise (· < ·)
  idx_all : ∀ i, i < ei → (es i).optional = false → i ∈ idxOf acc
  good : ∀ d ∈ acc, DL.Good n m es mt d

/-- Well-formedness of a complete diff result (property C02). -/
structure WF (d : List DL) : Prop where
  cover : linesOf d = rangeFrom 0 m
  idx_sorted : (idxOf d).Pairwise (· < ·)
  idx_lt : ∀ i ∈ idxOf d, i < n
  idx_all : ∀ i, i < n → (es i).optional = false → i ∈ idxOf d
  good : ∀ x ∈ d, DL.Good n m es mt x

section steps
variable {n m es mt}

theorem LInv.wf {d : List DL} (h : LInv n m es mt n m none d) : WF n m es mt d :=
  ⟨h.cover, h.idx_sorted, h.idx_lt, h.idx_all, h.good⟩

/-- Every step of the comparison appends a block `b` that accounts for the lines from the old frontier
`ms.getD li` to the new one and for the expectations `ei ≤ i < ei'`; the invariant survives that. -/
theorem LInv.append {ei li ms acc} (h : LInv n m es mt ei li ms acc) {b : List DL} {ei' li' : Nat}
    {ms' : Option Nat} (hli : li' ≤ m) (hle : ei ≤ ei') (hei : ei' ≤ n)
    (hfront : ms.getD li ≤ ms'.getD li')
    (hcov : linesOf b = rangeFrom (ms.getD li) (ms'.getD li'))
    (hopen : ∀ s, ms' = some s →
      s < li' ∧ ei' < n ∧ (es ei').multiline = true ∧ ∀ l, s ≤ l → l < li' → mt ei' l = true)
    (hin : ∀ i ∈ idxOf b, ei ≤ i ∧ i < ei') (hsort : (idxOf b).Pairwise (· < ·))
    (hall : ∀ i, ei ≤ i → i < ei' → (es i).optional = false → i ∈ idxOf b)
    (hgood : ∀ d ∈ b, DL.Good n m es mt d) :
    LInv n m es mt ei' li' ms' (acc ++ b) := by
  refine ⟨hli, hei, ?_, hopen, ?_, ?_, ?_, ?_⟩
  · rw [linesOf_append, h.cover, hcov, rangeFrom_append (Nat.zero_le _) hfront]
  · intro i hi
    rcases List.mem_append.1 (idxOf_append .. ▸ hi) with hi | hi
    · exact Nat.lt_of_lt_of_le (h.idx_lt i hi) hle
    · exact (hin i hi).2
  · rw [idxOf_append, List.pairwise_append]
    exact ⟨h.idx_sorted, hsort, fun x hx y hy => Nat.lt_of_lt_of_le (h.idx_lt x hx) (hin y hy).1⟩
  · intro i hi ho
    rw [idxOf_append, List.mem_append]
    by_cases hie : i < ei
    · exact .inl (h.idx_all i hie ho)
    · exact .inr (hall i (Nat.le_of_not_lt hie) hi ho)
  · intro d hd
    rcases List.mem_append.1 hd with hd | hd
    · exact h.good d hd
    · exact hgood d hd

theorem LInv.close {ei li s acc} (h : LInv n m es mt ei li (some s) acc) :
    LInv n m es mt (ei+1) li none (acc ++ [DL.matched ei (rangeFrom s li)]) := by
  obtain ⟨hs, hei, hmul, hmt⟩ := h.open_ s rfl
  have hli := h.li_le
  refine h.append hli (Nat.le_succ _) hei (hfront := Nat.le_of_lt hs) (hcov := by simp) (hopen := by simp)
    (hin := by simp) (hsort := by simp) (hall := fun i h1 h2 _ => by simpa using Nat.le_antisymm (Nat.le_of_lt_succ h2) h1) fun d hd => ?_
  rw [List.mem_singleton.1 hd]
  exact ⟨hei, rangeFrom_ne_nil hs, fun l hl => have := mem_rangeFrom.1 hl; ⟨Nat.lt_of_lt_of_le this.2 hli, hmt l this.1 this.2⟩,
    fun hc => by rw [hmul] at hc; cases hc⟩

theorem LInv.skipTo {ei li acc k} (h : LInv n m es mt ei li none acc) (hk : ei ≤ k) (hkn : k ≤ n) :
    LInv n m es mt k li none (acc ++ unmatchedOf es ei k) := by
  refine h.append h.li_le hk hkn (hfront := Nat.le_refl _) (hcov := by simp) (hopen := by simp) ?hin ?hsort ?hall ?hgood
  · intro i hi; rw [idxOf_unmatchedOf] at hi; exact mem_rangeFrom.1 (List.mem_filter.1 hi).1
  · rw [idxOf_unmatchedOf]; exact (rangeFrom_pairwise _ _).filter _
  · intro i h1 h2 ho; rw [idxOf_unmatchedOf]; exact List.mem_filter.2 ⟨mem_rangeFrom.2 ⟨h1, h2⟩, by simp [ho]⟩
  · intro d hd
    obtain ⟨i, -, hi, ho, rfl⟩ := (mem_unmatchedOf es).1 hd
    exact ⟨Nat.lt_of_lt_of_le hi hkn, ho⟩

theorem LInv.unexpected {ei li acc l} (h : LInv n m es mt ei li none acc) (hl : li < l) (hlm : l ≤ m) :
    LInv n m es mt ei l none (acc ++ [DL.unexpected (rangeFrom li l)]) :=
  h.append hlm (Nat.le_refl _) h.ei_le (hfront := Nat.le_of_lt hl) (hcov := by simp) (hopen := by simp)
    (hin := by simp) (hsort := by simp) (hall := fun i h1 h2 _ => absurd h2 (Nat.not_lt.2 h1))
    (hgood := fun d hd => by rw [List.mem_singleton.1 hd]; exact rangeFrom_ne_nil hl)

theorem LInv.single {ei li acc} (h : LInv n m es mt ei li none acc) (hei : ei < n) (hli : li < m)
    (hm : mt ei li = true) : LInv n m es mt (ei+1) (li+1) none (acc ++ [DL.matched ei [li]]) :=
  h.append hli (Nat.le_succ _) hei (hfront := Nat.le_succ _) (hcov := by simp [rangeFrom_succ])
    (hopen := by simp) (hin := by simp) (hsort := by simp) (hall := fun i h1 h2 _ => by simpa using Nat.le_antisymm (Nat.le_of_lt_succ h2) h1)
    (hgood := fun d hd => by
      rw [List.mem_singleton.1 hd]
      exact ⟨hei, by simp, fun l hl => by rw [List.mem_singleton.1 hl]; exact ⟨hli, hm⟩, fun _ => rfl⟩)

theorem LInv.extend {ei li ms acc} (h : LInv n m es mt ei li ms acc) (hei : ei < n) (hli : li < m)
    (hm : mt ei li = true) (hmul : (es ei).multiline = true) :
    LInv n m es mt ei (li+1) (some (ms.getD li)) acc := by
  refine List.append_nil acc ▸ h.append (b := []) hli (Nat.le_refl _) h.ei_le (hfront := Nat.le_refl _)
    (hcov := by simp) (hopen := ?_) (hin := by simp) (hsort := by simp) (hall := fun i h1 h2 _ => absurd h2 (Nat.not_lt.2 h1))
    (hgood := by simp)
  intro s hs
  cases Option.some.inj hs
  have run : ms.getD li ≤ li ∧ ∀ l, ms.getD li ≤ l → l < li → mt ei l = true := by
    cases ms with
    | none => exact ⟨Nat.le_refl _, fun l h1 h2 => absurd h2 (Nat.not_lt.2 h1)⟩
    | some s0 => have := h.open_ s0 rfl; exact ⟨Nat.le_of_lt this.1, this.2.2.2⟩
  refine ⟨Nat.lt_succ_of_le run.1, hei, hmul, fun l h1 h2 => ?_⟩
  by_cases hl : l = li
  · exact hl ▸ hm
  · exact run.2 l h1 (Nat.lt_of_le_of_ne (Nat.le_of_lt_succ h2) hl)

end steps

theorem loop_inv (ei li : Nat) (ms : Option Nat) (acc : List DL) :
    LInv n m es mt ei li ms acc →
    LInv n m es mt (loop n m es mt ei li ms acc).1 (loop n m es mt ei li ms acc).2.1
      (loop n m es mt ei li ms acc).2.2.1 (loop n m es mt ei li ms acc).2.2.2 := by
  fun_induction loop n m es mt ei li ms acc
  all_goals intro h
  case case8 => exact h  -- loop left
  case case1 ei li ms acc hlt hm hmul hy ih =>  -- multiline `ei` yields to `ei+1`
    cases ms with
    | some s => exact ih h.close
    | none =>
      -- without a run nothing is appended: `ei` is optional, so skipping it reports nothing
      have := h.skipTo (Nat.le_succ ei) (Nat.le_of_lt hy.1)
      rw [unmatchedOf_succ, if_pos (by simpa using hy.2.1)] at this
      exact ih this
  case case2 ei li ms acc hlt hm hmul hy ih =>  -- the line joins the run of `ei`
    exact ih (h.extend hlt.1 hlt.2 hm hmul)
  case case3 ei li ms acc hlt hm hmul ih =>  -- single-line match
    cases ms with
    | some s => exact absurd (h.open_ s rfl).2.2.1 hmul
    | none => exact ih (h.single hlt.1 hlt.2 hm)
  case case4 ei li acc hlt hm s ih => exact ih h.close  -- no match, the run of `ei` ends
  case case5 ei li acc hlt hm k hk hge ih =>  -- a later expectation `k` matches the line
    have hk' := findFrom_some hk
    exact ih (h.skipTo (Nat.le_of_succ_le hk'.1) (Nat.le_of_lt (Nat.add_sub_cancel' hlt.1 ▸ hk'.2.1)))
  case case6 ei li acc hlt hm hk l hl hge ih =>  -- a later line `l` matches `ei`
    have hl' := findFrom_some hl
    exact ih (h.unexpected hl'.1 (Nat.le_of_lt (Nat.add_sub_cancel' hlt.2 ▸ hl'.2.1)))
  case case7 ei li acc hlt hm hk hl ih =>  -- neither: `ei` is given up
    have := h.skipTo (Nat.le_succ ei) hlt.1
    rw [unmatchedOf_succ] at this
    exact ih this

theorem loop_exit (ei li : Nat) (ms : Option Nat) (acc : List DL) :
    ¬ ((loop n m es mt ei li ms acc).1 < n ∧ (loop n m es mt ei li ms acc).2.1 < m) := by
  fun_induction loop n m es mt ei li ms acc <;> assumption

theorem linv_init : LInv n m es mt 0 0 none [] :=
  ⟨Nat.zero_le _, Nat.zero_le _, by simp, by simp, by simp, by simp, by intro i hi; omega, by simp⟩

/-- `diff` is the final state of the loop followed by the flush of diff.rs:217-244. If a multiline run
is still open, the lines are used up (the loop ended with `ei < n`), so no line is left over then. -/
theorem diff_eq_flush : ∃ ei li ms acc, loop n m es mt 0 0 none [] = (ei, li, ms, acc) ∧
    LInv n m es mt ei li ms acc ∧ (ei < n → li = m) ∧
    diff n m es mt = match ms with
      | some s => acc ++ [DL.matched ei (rangeFrom s li)] ++ unmatchedOf es (ei+1) n
      | none => acc ++ unmatchedOf es ei n ++ if li < m then [DL.unexpected (rangeFrom li m)] else [] := by
  have hinv := loop_inv n m es mt 0 0 none [] (linv_init n m es mt)
  have hexit := loop_exit n m es mt 0 0 none []
  unfold diff
  generalize loop n m es mt 0 0 none [] = r at hinv hexit
  obtain ⟨ei, li, ms, acc⟩ := r
  have hli : ei < n → li = m := fun h => Nat.le_antisymm hinv.li_le (Nat.not_lt.1 fun h' => hexit ⟨h, h'⟩)
  refine ⟨ei, li, ms, acc, rfl, hinv, hli, ?_⟩
  cases ms with
  | some s => simp only [hli (hinv.open_ s rfl).2.1, Nat.lt_irrefl, if_false]
  | none => dsimp only; split <;> simp

theorem diff_wf : WF n m es mt (diff n m es mt) := by
  obtain ⟨ei, li, ms, acc, -, hinv, hli, hd⟩ := diff_eq_flush n m es mt
  rw [hd]
  cases ms with
  | some s =>
    have hei := (hinv.open_ s rfl).2.1
    cases hli hei
    exact (hinv.close.skipTo hei (Nat.le_refl _)).wf
  | none =>
    have h := hinv.skipTo hinv.ei_le (Nat.le_refl _)
    dsimp only
    split
    · rename_i hlt; exact (h.unexpected hlt (Nat.le_refl _)).wf
    · rename_i hge
      cases Nat.le_antisymm hinv.li_le (Nat.not_lt.1 hge)
      rw [List.append_nil]; exact h.wf

end Scrut.Diff
