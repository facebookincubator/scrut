import ScrutModel.Lemmas.UpdateReread
/-!
Re-tokenizing an updated document: the tokenizer model run over the text that `update` writes
yields tokens with the same texts (`retok_scan`), hence a second update with the same generated
texts writes the same document.
-/
namespace Scrut.Update
open Scrut.Markdown Scrut.LineParser

theorem splitLinesAux_append (a b : List Char) (ha : a.getLast? = some '\n') :
    ∀ acc, splitLinesAux (a ++ b) acc = splitLinesAux a acc ++ splitLinesAux b [] := by
  induction a with
  | nil => simp at ha
  | cons c r ih =>
    intro acc
    cases r with
    | nil =>
      have hc : c = '\n' := by simpa using ha
      subst hc
      simp [splitLinesAux]
    | cons c' r' =>
      have ha' : (c' :: r').getLast? = some '\n' := by
        rw [List.getLast?_cons_cons] at ha
        exact ha
      rw [List.cons_append, splitLinesAux_cons, splitLinesAux_cons c (c' :: r')]
      split
      · rw [ih ha' []]; rfl
      · rw [ih ha' (c :: acc)]

theorem splitLines_nil : splitLines [] = [] := rfl

/-- a text that is empty or ends in LF -/
def EndsNl (g : List Char) : Prop := g = [] ∨ g.getLast? = some '\n'

theorem splitLines_append (a b : List Char) (ha : EndsNl a) :
    splitLines (a ++ b) = splitLines a ++ splitLines b := by
  rcases ha with rfl | ha
  · simp [splitLines, splitLinesAux]
  · exact splitLinesAux_append a b ha []

theorem startsWith_backticks_le (n : Nat) : ∀ (l : Line), startsWith l (backticks n) = true →
    n ≤ leadingBackticks l := by
  induction n with
  | zero => intro l _; exact Nat.zero_le _
  | succ n ih =>
    intro l h
    have e : backticks (n + 1) = '`' :: backticks n := by simp [backticks, List.replicate_succ]
    rw [e] at h
    cases l with
    | nil => simp [startsWith, List.isPrefixOf] at h
    | cons c r =>
      simp only [startsWith, List.isPrefixOf, Bool.and_eq_true, beq_iff_eq] at h
      obtain ⟨hc, hr⟩ := h
      subst hc
      have := ih r hr
      simp only [leadingBackticks, List.takeWhile, decide_true, List.length_cons] at this ⊢
      omega

/-- (`GenLemmas.fence_safe` is the same fact for `Gen.maxBacktickSize`, which folds over `Gen.lines`: those are
not the lines of `str::lines()` where a line ends in CR, so the two maxima are not equal by unfolding) -/
theorem gen_lines_fence_safe (g : List Char) :
    ∀ l ∈ splitLines g, startsWith l (backticks (maxBacktickSize g + 1)) = false := by
  intro l hl
  cases h : startsWith l (backticks (maxBacktickSize g + 1)) with
  | false => rfl
  | true =>
    have h1 := startsWith_backticks_le _ l h
    have h2 := (foldl_max_ge leadingBackticks (splitLines g) 2).2 l hl
    unfold maxBacktickSize at h1
    omega

theorem comment_not_fence (l : Line) (n : Nat) (hl : isComment l = true) :
    startsWith l (backticks (n + 1)) = false := by
  have e : backticks (n + 1) = '`' :: backticks n := by simp [backticks, List.replicate_succ]
  rw [e]
  cases l with
  | nil => simp [isComment] at hl
  | cons c r =>
    have hc : c = '#' := by
      unfold isComment at hl
      split at hl
      · rename_i h; cases h; rfl
      · cases hl
    subst hc
    simp [startsWith, List.isPrefixOf]

theorem mem_trimEnd {c : Char} {l : Line} (h : c ∈ trimEnd l) : c ∈ l := by
  unfold trimEnd at h
  have h1 := List.mem_reverse.mp h
  exact List.mem_reverse.mp ((List.dropWhile_sublist _).subset h1)

theorem mem_trimStart {c : Char} {l : Line} (h : c ∈ trimStart l) : c ∈ l :=
  (List.dropWhile_sublist _).subset h

theorem fencePure_cfg_mem {l bt lang config : Line} (h : fencePure l = some (bt, lang, config)) :
    ∀ c ∈ config, c ∈ l := by
  rw [fencePure_eq] at h
  split at h
  · injection h with h
    unfold fenceParts at h
    split at h
    · obtain rfl : config = [] := (Prod.mk.inj (Prod.mk.inj h).2).2.symm
      intro c hc
      cases hc
    · rename_i ch rest hinfo
      obtain rfl := (Prod.mk.inj (Prod.mk.inj h).2).2
      intro c hc
      have : c ∈ fenceInfo l := by
        rw [hinfo]
        exact List.mem_cons_of_mem _ ((List.dropWhile_sublist _).subset (mem_trimEnd hc))
      exact (List.dropWhile_sublist _).subset this
  · cases h

theorem cfgLines_no_nl {l bt lang config : Line} (h : fencePure l = some (bt, lang, config))
    (hl : '\n' ∉ l) (i : Nat) : '\n' ∉ joinNumbered (cfgLines i config) := by
  unfold cfgLines
  cases hs : stripBraces config with
  | none => simp [joinNumbered, joinNl]
  | some c =>
    simp only [joinNumbered, List.map_cons, List.map_nil, joinNl]
    intro hc
    obtain ⟨_, rfl⟩ := stripBraces_eq_some.mp hs
    exact hl (fencePure_cfg_mem h _ (by simp [hc]))

theorem fence_line_clean (n : Nat) (lang : Line) (hl : LangOK lang) (cfg : Numbered)
    (hc : '\n' ∉ joinNumbered cfg) : Clean (backticks n ++ lang ++ configSuffix cfg) := by
  refine Clean.append_left (fun c hm => ?_) ?_
  · rcases List.mem_append.mp hm with hm | hm
    · rw [List.eq_of_mem_replicate hm]; decide
    · have := (hl c hm).2.2
      constructor <;> (rintro rfl; revert this; decide)
  · unfold configSuffix
    simp only []
    split
    · exact clean_of_forall (by simp)
    · refine ⟨?_, ?_⟩
      · simp only [List.mem_append, List.mem_cons, List.not_mem_nil, or_false, not_or]
        exact ⟨by decide, by decide, fun h => hc (mem_blankStart h), by decide⟩
      · rw [← List.cons_append, ← List.cons_append, List.getLast?_append]
        simp

/-! `fwd_*`: what the tokenizer computes over a whole construct up to and with the line that ends it, as against the
`*_skip` lemmas of `Lemmas/Markdown.lean`, which cover the lines inside. -/

theorem fwd_front (L : List Line) (cs : Bool) (body rest : List Line) (hb : ∀ x ∈ body, x ≠ frontMatterFence)
    (acc : Numbered) (li : Nat) :
    runP L (.front acc) cs li (body ++ frontMatterFence :: rest)
      = .docConfig (acc ++ number li body) :: runP L .top cs (li + body.length + 1) rest := by
  simp [front_skip L cs body _ hb, runP]

theorem fwd_verb (L : List Line) (cs : Bool) (bt : Line) (start : Nat) (language : Line)
    (body : List Line) (closer : Option Line) (rest : List Line)
    (hb : ∀ x ∈ body, startsWith x bt = false) (hc : Closes bt closer rest) (acc : List Line) (li : Nat) :
    runP L (.verb bt start language acc) cs li (body ++ (closer.toList ++ rest))
      = .verbatim start language (acc ++ (body ++ closer.toList))
          :: runP L .top cs (li + body.length + closer.toList.length) rest := by
  cases closer with
  | some c => simp [verb_skip L cs bt start language body _ hb, runP, show startsWith c bt = true from hc]
  | none =>
    obtain rfl : rest = [] := hc
    have := verb_skip L cs bt start language body [] hb acc li
    rw [List.append_nil] at this
    simp [this, runP, Mode.flushTok]

/-- the code lines: the first of them is not read as one more comment -/
theorem fwd_test_code (L : List Line) (cs : Bool) (bt language : Line) (cfg cm : Numbered)
    (code : List Line) (closer : Line) (rest : List Line)
    (hb : ∀ x ∈ code, startsWith x bt = false) (hc : startsWith closer bt = true)
    (li : Nat) (hhead : code.head?.map isComment ≠ some true) :
    runP L (.test bt language cfg cm []) cs li (code ++ closer :: rest)
      = .test language cfg cm (number li code) :: runP L .top cs (li + code.length + 1) rest := by
  cases code with
  | nil => simp [runP, hc, number]
  | cons l r =>
    obtain ⟨hl, hr⟩ := List.forall_mem_cons.mp hb
    have hl' : isComment l = false := by simpa using hhead
    -- behind the first code line the loop collects code lines only
    obtain ⟨cm', cd', heq, hcm', _, _, hrun⟩ := test_skip L cs bt language cfg r hr cm [(li, l)] (li + 1)
    obtain rfl := hcm' (by simp)
    obtain rfl : cd' = number li (l :: r) := by simpa [number] using heq
    simp [runP, hl, hl', hrun, hc, Nat.add_assoc, Nat.add_comm 1]

theorem retok_testBlock (L : List Line) (n : Nat) (hn : 3 ≤ n) (lang : Line)
    (hlang : L.contains lang = true) (hl : LangOK lang) (cfg cm : Numbered) (g : List Char)
    (hcfg : '\n' ∉ joinNumbered cfg) (hcm : ∀ c ∈ cm, isComment c.2 = true ∧ Clean c.2) (hg : EndsNl g)
    (hcode : ∀ x ∈ splitLines g, startsWith x (backticks n) = false)
    (hhead : (splitLines g).head?.map isComment ≠ some true) (cs : Bool) (li' : Nat) (t : List Char) :
    ∃ cfg' cm' cd' j, configSuffix cfg' = configSuffix cfg ∧ cfg'.map (·.2) = writtenCfg cfg ∧
      cm'.map (·.2) = cm.map (·.2) ∧ cd'.map (·.2) = splitLines g ∧
      runP L .top cs li' (splitLines (testBlock (backticks n) lang cfg cm g ++ t))
        = .test lang cfg' cm' cd' :: runP L .top true j (splitLines t) := by
  obtain ⟨config', hf, hcfg', hcw⟩ := fence_line_reread_cfg n hn lang hl cfg
  refine ⟨cfgLines li' config', number (li' + 1) (cm.map (·.2)),
    number (li' + 1 + (cm.map (·.2)).length) (splitLines g), li' + 1 + (cm.map (·.2)).length + (splitLines g).length + 1,
    hcfg' li', hcw li', number_map_snd _ _, number_map_snd _ _, ?_⟩
  have hbt := clean_backticks n
  have e : testBlock (backticks n) lang cfg cm g ++ t = (backticks n ++ lang ++ configSuffix cfg) ++
      '\n' :: (unlines (cm.map (·.2)) ++ (g ++ (backticks n ++ '\n' :: t))) := by
    simp only [testBlock, commentText_eq cm (fun c hc => (hcm c hc).2.1), assureNewline_of_no_nl hbt.1,
      List.append_assoc, List.cons_append, List.nil_append]
  rw [e, splitLines_line _ _ (fence_line_clean n lang hl cfg hcfg), splitLines_unlines_append _ (by
    intro l hl
    obtain ⟨c, hc, rfl⟩ := List.mem_map.mp hl
    exact (hcm c hc).2), splitLines_append g _ hg, splitLines_line _ t hbt, runP_top_cons]
  have h1 : (!cs && decide (backticks n ++ lang ++ configSuffix cfg = frontMatterFence)) = false := by
    rw [Bool.and_eq_false_iff]
    exact .inr (decide_eq_false (fencePure_ne_front hf))
  simp only [h1, hf, hlang, Bool.false_eq_true, if_false, Bool.not_true]
  obtain ⟨m, rfl⟩ : ∃ m, n = m + 1 := ⟨n - 1, by omega⟩
  have hcmm : ∀ x ∈ cm.map (·.2), isComment x = true := by
    intro x hx
    obtain ⟨c, hc, rfl⟩ := List.mem_map.mp hx
    exact (hcm c hc).1
  rw [fwd_test_comments L true (backticks (m + 1)) lang (cfgLines li' config') (cm.map (·.2)) _
    (fun x hx => comment_not_fence x m (hcmm x hx)) hcmm [] (li' + 1),
    fwd_test_code L true (backticks (m + 1)) lang (cfgLines li' config') _ (splitLines g) (backticks (m + 1))
      (splitLines t) hcode (by simp [startsWith]) _ hhead]
  rfl

/-- stated as a step for all `T`, `T'`, so that the caller needs no case distinction between a block without code and
one with code, whose `Reread` rules differ -/
theorem retok_test_token (L : List Line) (gens : List (Option (List Char)))
    (hg : ∀ (k : Nat) (g : List Char), gens[k]? = some (some g) → GenOK g)
    (lang : Line) (hlang : L.contains lang = true) (hl : LangOK lang) (cfg cm cd : Numbered)
    (hcfg : '\n' ∉ joinNumbered cfg) (hcm : ∀ c ∈ cm, isComment c.2 = true ∧ Clean c.2)
    (k k' : Nat) (s : List Char) (he : emitTok gens k (.test lang cfg cm cd) = .ok (s, k'))
    (cs : Bool) (li' : Nat) (t : List Char) :
    ∃ cfg' cm' cd' j,
      runP L .top cs li' (splitLines (s ++ t)) = .test lang cfg' cm' cd' :: runP L .top true j (splitLines t) ∧
      cfg'.map (·.2) = writtenCfg cfg ∧
      ∀ T T', Reread gens k' T T' → Reread gens k (.test lang cfg cm cd :: T) (.test lang cfg' cm' cd' :: T') := by
  rcases emitTok_test_ok he with ⟨rfl, rfl, rfl⟩ | ⟨hce, g, hgk, rfl, rfl⟩
  · obtain ⟨cfg', cm', cd', j, hc1, hcw, hc2, hcd, hrun⟩ := retok_testBlock L 3 (Nat.le_refl _) lang hlang hl cfg cm []
      hcfg hcm (Or.inl rfl) (by simp [splitLines_nil]) (by simp [splitLines_nil]) cs li' t
    obtain rfl : cd' = [] := List.map_eq_nil_iff.mp hcd
    exact ⟨cfg', cm', [], j, hrun, hcw, fun T T' h => .testNoCode _ lang _ cfg' cm cm' _ _ hc1 hc2 h⟩
  · have hgen := hg k g hgk
    have hm := two_le_maxBacktickSize g
    obtain ⟨cfg', cm', cd', j, hc1, hcw, hc2, hcd, hrun⟩ := retok_testBlock L (maxBacktickSize g + 1) (by omega) lang
      hlang hl cfg cm g hcfg hcm (Or.inr hgen.1) (gen_lines_fence_safe g) (by rw [hgen.2]; simp) cs li' t
    refine ⟨cfg', cm', cd', j, hrun, hcw, fun T T' h => .testCode k lang _ cfg' cm cm' cd cd' g _ _ hce hgk hc1 hc2 hcd ?_ h⟩
    -- `g` has a first line
    rintro rfl
    have h2 := hgen.2
    rw [← hcd] at h2
    simp at h2

theorem frontClosed_line (N pos i : Nat) (l : Line) (T : List Tok) :
    frontClosed N pos (.line i l :: T) = frontClosed N (pos + 1) T := rfl

theorem frontClosed_verbatim (N pos st : Nat) (lang : Line) (ls : List Line) (T : List Tok) :
    frontClosed N pos (.verbatim st lang ls :: T) = frontClosed N (pos + ls.length) T := rfl

theorem frontClosed_test (N pos : Nat) (lang : Line) (cfg cm cd : Numbered) (T : List Tok) :
    frontClosed N pos (.test lang cfg cm cd :: T) = frontClosed N (pos + (cm.length + cd.length + 2)) T := rfl

/-- the configuration lines of the scrut block tokens, in order -/
def cfgsOf : List Tok → List Numbered
  | [] => []
  | .test _ cfg _ _ :: r => cfg :: cfgsOf r
  | .line _ _ :: r => cfgsOf r
  | .docConfig _ :: r => cfgsOf r
  | .verbatim _ _ _ :: r => cfgsOf r

/-- the texts of the configuration lines -/
def cfgTexts (toks : List Tok) : List (List Line) := (cfgsOf toks).map (fun c => c.map (·.2))

theorem retok_scan (L : List Line) (hL : ∀ lang, L.contains lang = true → LangOK lang)
    (gens : List (Option (List Char)))
    (hg : ∀ (k : Nat) (g : List Char), gens[k]? = some (some g) → GenOK g)
    {cs : Bool} {li : Nat} {src : List Line} {toks : List Tok} (hs : Scan L true cs li src toks) :
    ∀ (li' k : Nat) (out : List Char), (∀ l ∈ src, Clean l) → emit gens k toks = .ok out →
      Reread gens k toks (runP L .top cs li' (splitLines out)) ∧
      cfgTexts (runP L .top cs li' (splitLines out)) = (cfgsOf toks).map writtenCfg := by
  induction hs with
  | nil cs li =>
    intro li' k out _ hem
    rw [emit_nil_ok hem]
    exact ⟨.nil k, rfl⟩
  | line cs li l rest toks hfm hf _ ih =>
    intro li' k out hcl hem
    obtain ⟨r, he2, rfl⟩ := emit_plain_ok (fun _ => rfl) hem
    have hl := hcl l (by simp)
    rw [assureNewline_of_no_nl hl.1, List.append_assoc, List.singleton_append, splitLines_line l r hl, runP_top_cons]
    simp only [hfm, Bool.false_eq_true, if_false, hf]
    have IH := ih (li' + 1) k r (fun x hx => hcl x (by simp [hx])) he2
    exact ⟨.line k _ _ l _ _ IH.1, IH.2⟩
  | front li body rest toks hb _ ih =>
    intro li' k out hcl hem
    obtain ⟨r, he2, rfl⟩ := emit_plain_ok (fun _ => rfl) hem
    have hbc : ∀ x ∈ frontMatterFence :: (body ++ [frontMatterFence]), Clean x := by
      intro x hx
      simp only [List.mem_cons, List.mem_append, List.not_mem_nil, or_false] at hx
      rcases hx with rfl | hx | rfl
      · exact clean_front
      · exact hcl x (by simp [hx])
      · exact clean_front
    rw [docConfig_text _ body (fun x hx => (hbc x (by simp [hx])).1), splitLines_unlines_append _ hbc r,
      List.cons_append, List.append_assoc, List.singleton_append, runP_top_cons, if_pos (by simp),
      fwd_front L false body _ hb [] (li' + 1), List.nil_append]
    have IH := ih (li' + 1 + body.length + 1) k r (fun x hx => hcl x (by simp [hx])) he2
    exact ⟨.front k _ _ _ _ (by rw [number_map_snd, number_map_snd]) IH.1, IH.2⟩
  | frontOpen li body hs _ => cases hs
  | verb cs li opener bt language config body closer rest toks hf hlang hb hc hrest ih =>
    intro li' k out hcl hem
    obtain ⟨r, he2, rfl⟩ := emit_plain_ok (fun _ => rfl) hem
    have hall : ∀ x ∈ opener :: (body ++ closer.toList), Clean x := by
      intro x hx
      refine hcl x ?_
      simp only [List.mem_cons, List.mem_append] at hx ⊢
      rcases hx with h | h | h <;> simp [h]
    have hfm : (!cs && decide (opener = frontMatterFence)) = false := by simp [fencePure_ne_front hf]
    rw [flatMap_assure _ (fun x hx => (hall x hx).1), splitLines_unlines_append _ hall r, List.cons_append,
      List.append_assoc, runP_top_cons]
    simp only [hfm, Bool.false_eq_true, if_false, hf, hlang, Bool.not_false, if_true]
    have hc' : Closes bt closer (splitLines r) := by
      cases closer with
      | some c => exact hc
      | none =>
        -- nothing follows a block that runs to the end of the document, so nothing more is written
        obtain rfl : rest = [] := hc
        cases hrest
        rw [emit_nil_ok he2]
        rfl
    rw [fwd_verb L true bt li' language body closer _ hb hc' [opener] (li' + 1)]
    have IH := ih (li' + 1 + body.length + closer.toList.length) k r (fun x hx => hcl x (by simp [hx])) he2
    exact ⟨.verbatim k _ _ language _ _ _ IH.1, IH.2⟩
  | test cs li opener bt language config body closer rest toks comments code hf hlang hb _ hcc hcm _ ih =>
    intro li' k out hcl hem
    obtain ⟨s, k', r, he1, he2, rfl⟩ := emit_cons_ok hem
    have hmap : comments.map (·.2) ++ code.map (·.2) = body := by
      have := congrArg (List.map (·.2)) hcc
      simpa [number_map_snd] using this
    have hcm' : ∀ c ∈ comments, isComment c.2 = true ∧ Clean c.2 := by
      intro c hc
      refine ⟨hcm c hc, hcl _ ?_⟩
      rw [← hmap]
      simp only [List.mem_cons, List.mem_append, List.mem_map]
      exact .inr (.inl (.inl ⟨c, hc, rfl⟩))
    obtain ⟨cfg', cm', cd', j, hrun, hcw, hstep⟩ :=
      retok_test_token L gens hg language hlang (hL language hlang) (cfgLines li config) comments code
        (cfgLines_no_nl hf (hcl opener (by simp)).1 li) hcm' k k' s he1 cs li' r
    rw [hrun]
    have IH := ih j k' r (fun x hx => hcl x (by simp [hx])) he2
    exact ⟨hstep _ _ IH.1, congr (congrArg List.cons hcw) IH.2⟩

theorem reread_allSame {gens : List (Option (List Char))} {k : Nat} {toks toks' : List Tok}
    (h : Reread gens k toks toks') : AllSame toks toks' := by
  induction h with
  | nil k => exact .nil
  | line k i i' l r r' _ ih => exact .cons rfl ih
  | front k ls ls' r r' hm _ ih => exact .cons hm.symm ih
  | verbatim k s s' lang ls r r' _ ih => exact .cons rfl ih
  | testNoCode k lang cfg cfg' cm cm' r r' hc hm _ ih => exact .cons ⟨rfl, hc.symm, hm.symm, rfl⟩ ih
  | testCode k lang cfg cfg' cm cm' cd cd' g r r' hcd _ hc hm _ hcd' _ ih =>
    refine .cons ⟨rfl, hc.symm, hm.symm, ?_⟩ ih
    have h1 : cd.isEmpty = false := by simpa using hcd
    have h2 : cd'.isEmpty = false := by simpa using hcd'
    rw [h1, h2]

theorem generateUpdate_reread_cfg (L : List Line) (hL : ∀ lang, L.contains lang = true → LangOK lang)
    (gens : List (Option (List Char))) (hne : gens ≠ [])
    (hg : ∀ (k : Nat) (g : List Char), gens[k]? = some (some g) → GenOK g)
    (doc out : List Char) (hcr : ∀ l ∈ splitLines doc, l.getLast? ≠ some '\r')
    (hfc : frontClosed (splitLines doc).length 0 (runP L .top false 0 (splitLines doc)) = true)
    (h : generateUpdate L doc gens = .ok out) :
    Reread gens 0 (runP L .top false 0 (splitLines doc)) (runP L .top false 0 (splitLines out)) ∧
    cfgTexts (runP L .top false 0 (splitLines out)) = (cfgsOf (runP L .top false 0 (splitLines doc))).map writtenCfg := by
  rw [generateUpdate_eq L doc hne] at h
  exact retok_scan L hL gens hg ((scan_top L _ _ (Nat.le_refl _) false 0).toStrict _ (by simp) hfc) 0 0 out
    (fun l hl => ⟨splitLines_no_nl doc l hl, hcr l hl⟩) h

theorem generateUpdate_reread (L : List Line) (hL : ∀ lang, L.contains lang = true → LangOK lang)
    (gens : List (Option (List Char))) (hne : gens ≠ [])
    (hg : ∀ (k : Nat) (g : List Char), gens[k]? = some (some g) → GenOK g)
    (doc out : List Char) (hcr : ∀ l ∈ splitLines doc, l.getLast? ≠ some '\r')
    (toks : List Tok) (ht : tokenize L (splitLines doc) = .ok toks)
    (hfc : frontClosed (splitLines doc).length 0 toks = true)
    (h : generateUpdate L doc gens = .ok out) :
    ∃ toks', tokenize L (splitLines out) = .ok toks' ∧ Reread gens 0 toks toks' := by
  rw [tokenize_eq] at ht
  injection ht with ht
  subst ht
  exact ⟨_, tokenize_eq L (splitLines out), (generateUpdate_reread_cfg L hL gens hne hg doc out hcr hfc h).1⟩

theorem generateUpdate_idempotent (L : List Line) (hL : ∀ lang, L.contains lang = true → LangOK lang)
    (gens : List (Option (List Char))) (hne : gens ≠ [])
    (hg : ∀ (k : Nat) (g : List Char), gens[k]? = some (some g) → GenOK g)
    (doc out : List Char) (hcr : ∀ l ∈ splitLines doc, l.getLast? ≠ some '\r')
    (toks : List Tok) (ht : tokenize L (splitLines doc) = .ok toks)
    (hfc : frontClosed (splitLines doc).length 0 toks = true)
    (h : generateUpdate L doc gens = .ok out) :
    generateUpdate L out gens = .ok out := by
  rw [tokenize_eq] at ht
  injection ht with ht
  subst ht
  have hr := (generateUpdate_reread_cfg L hL gens hne hg doc out hcr hfc h).1
  rw [generateUpdate_eq L _ hne] at h ⊢
  rw [emit_sameTexts gens _ _ (reread_allSame hr) 0]
  exact h

end Scrut.Update
