import ScrutModel.Lemmas.FlowParse
namespace Scrut.Yaml
open Scrut.Dur

def okChar (c : Char) : Bool := !isBreak c && readable c

theorem raw_ok (c : Char) (h8 : 32 ≤ c.toNat) (h9 : needsYamlEscape c = false) : okChar c = true := by
  have hv : c.toNat < 55296 ∨ (57343 < c.toNat ∧ c.toNat < 1114112) := c.valid
  simp only [needsYamlEscape, Bool.or_eq_false_iff, Bool.and_eq_false_iff, decide_eq_false_iff_not] at h9
  simp only [okChar, isBreak, readable, Bool.and_eq_true, Bool.or_eq_true, Bool.not_eq_true',
    Bool.or_eq_false_iff, decide_eq_true_eq, decide_eq_false_iff_not]
  omega

theorem hexDigit_ok : ∀ k, k < 16 → okChar (hexDigit k) = true := by decide +kernel

theorem uEscape_ok (n : Nat) (h : n < 65536) : (uEscape n).all okChar = true := by
  have hb : okChar '\\' = true ∧ okChar 'u' = true := by decide +kernel
  simp only [uEscape, List.all_cons, List.all_nil, hb.1, hb.2, hexDigit_ok (n / 4096) (Nat.div_lt_of_lt_mul h),
    hexDigit_ok (n / 256 % 16) (Nat.mod_lt _ (by decide)), hexDigit_ok (n / 16 % 16) (Nat.mod_lt _ (by decide)),
    hexDigit_ok (n % 16) (Nat.mod_lt _ (by decide)),
    Bool.and_self]

theorem jsonEscape_ok (c : Char) : (jsonEscape c).all okChar = true := by
  refine jsonEscape_cases (P := fun l => l.all okChar = true) c ?_ ?_ ?_
  · have : ∀ e ∈ ['"', '\\', 'b', 'f', 'n', 'r', 't'], ['\\', e].all okChar = true := by decide +kernel
    exact fun e he _ => this e he
  · exact uEscape_ok c.toNat
  · intro _ _ h8 h9
    simp only [List.all_cons, List.all_nil, raw_ok c h8 h9, Bool.and_self]

theorem jsonBody_ok (s : List Char) : (jsonBody s).all okChar = true := by
  induction s with
  | nil => rfl
  | cons c s ih => simp only [jsonBody, List.all_append, jsonEscape_ok, ih, Bool.and_self]

theorem jsonQuote_ok (s : List Char) : (jsonQuote s).all okChar = true := by
  simp only [jsonQuote, List.all_cons, List.all_append, jsonBody_ok, List.all_nil, Bool.and_true, Bool.true_and]
  decide +kernel

theorem tok_ok (p : List Char) (h : Tok p = true) : p.all okChar = true := by
  simp only [Tok, Bool.and_eq_true] at h
  rw [List.all_eq_true] at *
  intro c hc
  have := h.1.1 c hc
  simp only [tokChar, Bool.and_eq_true] at this
  simp [okChar, this.1.2, this.2]

theorem scalar_ok (s : Scalar) (h : GoodS s = true) : s.render.all okChar = true := by
  cases s with
  | plain p => exact tok_ok p h
  | quoted q => exact jsonQuote_ok q

theorem joinComma_ok : ∀ (l : List (List Char)), (∀ x ∈ l, x.all okChar = true) → (joinComma l).all okChar = true := by
  intro l
  induction l with
  | nil => intro _; rfl
  | cons a r ih =>
    intro h
    cases r with
    | nil => simpa [joinComma] using h a (by simp)
    | cons b r' =>
      have h1 := h a (by simp)
      have h2 := ih (fun x hx => h x (by simp [hx]))
      have h3 : okChar ',' = true ∧ okChar ' ' = true := by decide +kernel
      simp only [joinComma, List.all_append, List.all_cons, h1, h3.1, h3.2, Bool.true_and] at h2 ⊢
      exact h2

theorem colon_ok : okChar ':' = true ∧ okChar ' ' = true ∧ okChar '{' = true ∧ okChar '}' = true := by decide +kernel

theorem entry_ok (k : Scalar) (v : List Char) (hk : GoodS k = true) (hv : v.all okChar = true) :
    (k.render ++ (':' :: ' ' :: v)).all okChar = true := by
  simp only [List.all_append, List.all_cons, scalar_ok k hk, hv, colon_ok.1, colon_ok.2.1, Bool.and_self]

theorem braces_ok {α : Type} (l : List α) (r : α → List Char) (h : ∀ x ∈ l, (r x).all okChar = true) :
    ('{' :: (joinComma (l.map r) ++ ['}'])).all okChar = true := by
  have := joinComma_ok (l.map r) (by
    intro x hx
    obtain ⟨a, hm, rfl⟩ := List.mem_map.mp hx
    exact h a hm)
  simp only [List.all_cons, List.all_append, this, colon_ok.2.2.1, colon_ok.2.2.2, List.all_nil, Bool.and_self]

theorem val_ok (v : Val) (h : GoodV v = true) : v.render.all okChar = true := by
  cases v with
  | sc s => exact scalar_ok s h
  | map kvs =>
    refine braces_ok kvs renderKS fun kv hm => ?_
    have hkv := List.all_eq_true.mp h kv hm
    simp only [GoodKS, Bool.and_eq_true] at hkv
    exact entry_ok kv.1 _ hkv.1.1 (scalar_ok _ hkv.1.2)

theorem ast_ok (a : Ast) (h : a.all GoodKV = true) : (Ast.render a).all okChar = true := by
  refine braces_ok a renderKV fun kv hm => ?_
  have hkv := List.all_eq_true.mp h kv hm
  simp only [GoodKV, Bool.and_eq_true] at hkv
  exact entry_ok kv.1 _ hkv.1.1 (val_ok _ hkv.1.2)

theorem parseFlow_render (a : Ast) (c : Cfg) (h : a.all GoodKV = true) (hi : interp a = .ok c) :
    parseFlow (Ast.render a) = .ok c := by
  have hok := ast_ok a h
  have h1 : (Ast.render a).any isBreak = false := by
    rw [List.any_eq_false]
    intro c hc
    have := List.all_eq_true.mp hok c hc
    simp only [okChar, Bool.and_eq_true, Bool.not_eq_true'] at this
    simp [this.1]
  have h2 : (Ast.render a).all readable = true := by
    rw [List.all_eq_true]
    intro c hc
    have := List.all_eq_true.mp hok c hc
    simp only [okChar, Bool.and_eq_true] at this
    exact this.2
  unfold parseFlow
  simp only [h1, h2, Bool.false_eq_true, if_false, Bool.not_true, parseAst_render a h, hi]

end Scrut.Yaml
