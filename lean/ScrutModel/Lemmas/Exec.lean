import ScrutModel.Model.Exec
import ScrutModel.Lemmas.Basic
/-!
# Lemmas about the execution model (`ScrutModel/Model/Exec.lean`)

`execLoop` is characterised by the inductive relation `Run`, one constructor per way a step of the
loop can end; the invariants of the loop are inductions on `Run`.  When every command completes, the
loop and the result mapping have closed forms.  Time is followed twice: the honest runner's clock in
closed form, and the trace of start and end times for any runner.
-/
namespace Scrut.Exec

theorem validate_code (tc : TC) (o : Out) (c : Int) (h : o.status = .code c) :
    validate tc o =
      if c ≠ tc.expected.getD 0 then .invalidExit c (tc.expected.getD 0)
      else if selected tc o then .ok else .malformed := by
  simp only [validate, h]

theorem validate_timeout (tc : TC) (o : Out) (h : o.status = .timeout) :
    validate tc o = .timeout := by
  simp only [validate, h]

theorem validate_skipped (tc : TC) (o : Out) (h : o.status = .skipped) :
    validate tc o = .skipped := by
  simp only [validate, h]

theorem validate_internal (tc : TC) (o : Out) (h : o.status = .detached ∨ o.status = .unknown) :
    validate tc o = .internal := by
  rcases h with h | h <;> simp only [validate, h]

theorem validate_code_kinds (tc : TC) (o : Out) (c : Int) (h : o.status = .code c) :
    validate tc o = .ok ∨ validate tc o = .malformed ∨ ∃ a e, validate tc o = .invalidExit a e := by
  rw [validate_code tc o c h]
  by_cases hc : c ≠ tc.expected.getD 0
  · exact .inr (.inr ⟨_, _, if_pos hc⟩)
  · rw [if_neg hc]
    cases selected tc o
    · exact .inr (.inl rfl)
    · exact .inl rfl

theorem validate_ok_iff (tc : TC) (o : Out) :
    validate tc o = .ok ↔
      ∃ c, o.status = .code c ∧ c = tc.expected.getD 0 ∧ selected tc o = true := by
  cases hs : o.status with
  | code c =>
    rw [validate_code tc o c hs]
    by_cases hc : c = tc.expected.getD 0
    · cases selected tc o <;> simp [hc]
    · simp [hc]
  | timeout => simp [validate_timeout tc o hs]
  | skipped => simp [validate_skipped tc o hs]
  | detached => simp [validate_internal tc o (.inl hs)]
  | unknown => simp [validate_internal tc o (.inr hs)]

theorem validate_skipped_iff (tc : TC) (o : Out) :
    validate tc o = .skipped ↔ o.status = .skipped := by
  cases hs : o.status with
  | code c => rcases validate_code_kinds tc o c hs with h | h | ⟨a, e, h⟩ <;> simp [h]
  | timeout => simp [validate_timeout tc o hs]
  | skipped => simp [validate_skipped tc o hs]
  | detached => simp [validate_internal tc o (.inl hs)]
  | unknown => simp [validate_internal tc o (.inr hs)]

/-- the smaller of two optional limits (`none` = no limit) -/
def minOpt : Option Nat → Option Nat → Option Nat
  | none, r => r
  | p, none => p
  | some p, some r => some (min p r)

theorem effective_is_min (p r : Option Nat) :
    (effective p r).2 = minOpt p r ∧
    ((effective p r).1 = true ↔ ∃ rv, r = some rv ∧ ∀ pv, p = some pv → rv < pv) := by
  cases p with
  | none => cases r <;> simp [effective, minOpt]
  | some p =>
    cases r with
    | none => simp [effective, minOpt]
    | some r =>
      by_cases h : p ≤ r
      · simp [effective, minOpt, h, Nat.min_eq_left h]
      · have h' : r ≤ p := Nat.le_of_lt (Nat.lt_of_not_le h)
        simp [effective, minOpt, h, Nat.min_eq_right h', Nat.lt_of_not_le h]

theorem effective_le (p : Option Nat) (r : Nat) :
    ∃ l, (effective p (some r)).2 = some l ∧ l ≤ r := by
  rw [(effective_is_min p (some r)).1]
  cases p with
  | none => exact ⟨r, rfl, Nat.le_refl r⟩
  | some p => exact ⟨min p r, rfl, Nat.min_le_right p r⟩

/-- the limit handed to the runner for `tc` when the loop reaches it at time `now`: the wait of
    the test case (`config.wait`) passes first, then the remaining document time is looked at.
    The whole wait is subtracted, not the capped one that moves the clock (`startOf`): what is left
    of the limit is the same (`sub_startOf`) -/
def limOf (limit : Option Nat) (tc : TC) (now : Nat) : Option Nat :=
  (effective tc.timeout (limit.map (· - (now + tc.wait)))).2

/-- is that limit the document limit? -/
def globOf (limit : Option Nat) (tc : TC) (now : Nat) : Bool :=
  (effective tc.timeout (limit.map (· - (now + tc.wait)))).1

theorem limOf_le (L : Nat) (tc : TC) (now : Nat) :
    ∃ l, limOf (some L) tc now = some l ∧ l ≤ L - (now + tc.wait) :=
  effective_le tc.timeout (L - (now + tc.wait))

/-- saturating arithmetic: what is left of the document limit after the capped wait is what is left
    of it after the whole wait (`l - (now + min w (l - now)) = l - (now + w)`), so the cap moves the
    clock but not the limit handed to the runner -/
theorem sub_startOf_some (L : Nat) (tc : TC) (now : Nat) :
    L - startOf (some L) tc now = L - (now + tc.wait) := by
  show L - (now + min tc.wait (L - now)) = _
  rw [Nat.sub_add_eq, Nat.sub_add_eq]
  rcases Nat.le_total tc.wait (L - now) with h | h
  · rw [Nat.min_eq_left h]
  · rw [Nat.min_eq_right h, Nat.sub_self, Nat.sub_eq_zero_of_le h]

theorem sub_startOf (limit : Option Nat) (tc : TC) (now : Nat) :
    limit.map (· - startOf limit tc now) = limit.map (· - (now + tc.wait)) := by
  cases limit with
  | none => rfl
  | some L => exact congrArg some (sub_startOf_some L tc now)

theorem startOf_spec (limit : Option Nat) (tc : TC) (now : Nat) :
    startOf limit tc now =
      (match limit with
       | some l => min (now + tc.wait) (max now l)
       | none => now + tc.wait) := by
  cases limit with
  | none => rfl
  | some l =>
    -- `now + (l - now) = max now l`
    simp only [startOf, cappedWait]
    rw [Nat.max_comm, ← Nat.sub_add_eq_max, Nat.add_comm (l - now), Nat.add_min_add_left]

theorem execLoop_cons (limit : Option Nat) (runner : Runner) (tc : TC) (rest : List TC)
    (idx now : Nat) (acc : List Out) (limits : List (Option Nat)) :
    execLoop limit runner (tc :: rest) idx now acc limits =
      match ((runner idx (limOf limit tc now)).1).status with
      | .code c =>
        if c = skipCodeOf tc then (.skipped idx, limits ++ [limOf limit tc now])
        else execLoop limit runner rest (idx + 1) (startOf limit tc now + (runner idx (limOf limit tc now)).2)
          (acc ++ [(runner idx (limOf limit tc now)).1]) (limits ++ [limOf limit tc now])
      | .timeout =>
        (.timeout (globOf limit tc now) idx (acc ++ [(runner idx (limOf limit tc now)).1]),
          limits ++ [limOf limit tc now])
      | .skipped => (.skipped idx, limits ++ [limOf limit tc now])
      | .detached =>
        execLoop limit runner rest (idx + 1) (startOf limit tc now + (runner idx (limOf limit tc now)).2)
          (acc ++ [detachedOut]) (limits ++ [limOf limit tc now])
      | .unknown =>
        (.ok (acc ++ [(runner idx (limOf limit tc now)).1] ++ rest.map unknownOut),
          limits ++ [limOf limit tc now]) := by
  unfold limOf globOf
  rw [← sub_startOf]
  rfl

/-- an `ExecResult` without its outputs: `Run` is indexed by the outputs pushed and by this -/
inductive Kind where
  | ok
  | skipped (i : Nat)
  | timeout (g : Bool) (i : Nat)

/-- … and the `ExecResult` again -/
def build : Kind → List Out → ExecResult
  | .ok, outs => .ok outs
  | .skipped i, _ => .skipped i
  | .timeout g i, outs => .timeout g i outs

/-- the loop goes on behind `tc` when the runner returned `r`, and pushes `o`: an exit code other
    than the skip code pushes `r` itself, a detached execution pushes `detachedOut` -/
def GoesOn (tc : TC) (r o : Out) : Prop :=
  (∃ c, r.status = .code c ∧ c ≠ skipCodeOf tc ∧ o = r) ∨ (r.status = .detached ∧ o = detachedOut)

theorem GoesOn.not_timeout {tc : TC} {r o : Out} (h : GoesOn tc r o) : r.status ≠ .timeout := by
  rcases h with ⟨c, hc, _⟩ | ⟨hd, _⟩
  · rw [hc]
    exact nofun
  · rw [hd]
    exact nofun

/-- `Run limit runner tcs idx now news newl k`: running the loop on `tcs` (head index `idx`, at
    time `now`) pushes the outputs `news`, hands the limits `newl` to the runner and ends as `k` -/
inductive Run (limit : Option Nat) (runner : Runner) :
    List TC → Nat → Nat → List Out → List (Option Nat) → Kind → Prop
  | nil (idx now : Nat) : Run limit runner [] idx now [] [] .ok
  | skip (tc : TC) (rest : List TC) (idx now : Nat) :
      ((runner idx (limOf limit tc now)).1).status = .code (skipCodeOf tc) ∨
        ((runner idx (limOf limit tc now)).1).status = .skipped →
      Run limit runner (tc :: rest) idx now [] [limOf limit tc now] (.skipped idx)
  | timeout (tc : TC) (rest : List TC) (idx now : Nat) :
      ((runner idx (limOf limit tc now)).1).status = .timeout →
      Run limit runner (tc :: rest) idx now [(runner idx (limOf limit tc now)).1]
        [limOf limit tc now] (.timeout (globOf limit tc now) idx)
  | unknown (tc : TC) (rest : List TC) (idx now : Nat) :
      ((runner idx (limOf limit tc now)).1).status = .unknown →
      Run limit runner (tc :: rest) idx now
        ((runner idx (limOf limit tc now)).1 :: rest.map unknownOut) [limOf limit tc now] .ok
  | step (tc : TC) (rest : List TC) (idx now : Nat) (o : Out) (news : List Out)
      (newl : List (Option Nat)) (k : Kind) :
      GoesOn tc (runner idx (limOf limit tc now)).1 o →
      Run limit runner rest (idx + 1) (startOf limit tc now + (runner idx (limOf limit tc now)).2) news newl k →
      Run limit runner (tc :: rest) idx now (o :: news) (limOf limit tc now :: newl) k

theorem execLoop_run (limit : Option Nat) (runner : Runner) (tcs : List TC) :
    ∀ (idx now : Nat) (acc : List Out) (limits : List (Option Nat)),
      ∃ news newl k, Run limit runner tcs idx now news newl k ∧
        execLoop limit runner tcs idx now acc limits = (build k (acc ++ news), limits ++ newl) := by
  induction tcs with
  | nil =>
    intro idx now acc limits
    exact ⟨[], [], .ok, .nil idx now, by rw [List.append_nil, List.append_nil]; rfl⟩
  | cons tc rest ih =>
    intro idx now acc limits
    have next : ∀ o, GoesOn tc (runner idx (limOf limit tc now)).1 o →
        ∃ news newl k, Run limit runner (tc :: rest) idx now news newl k ∧
          execLoop limit runner rest (idx + 1) (startOf limit tc now + (runner idx (limOf limit tc now)).2)
            (acc ++ [o]) (limits ++ [limOf limit tc now]) = (build k (acc ++ news), limits ++ newl) := by
      intro o hs
      obtain ⟨news, newl, k, hrun, heq⟩ :=
        ih (idx + 1) (startOf limit tc now + (runner idx (limOf limit tc now)).2) (acc ++ [o])
          (limits ++ [limOf limit tc now])
      exact ⟨o :: news, _ :: newl, k, .step tc rest idx now o news newl k hs hrun,
        by rw [heq, List.append_assoc, List.append_assoc]; rfl⟩
    rw [execLoop_cons]
    cases hs : ((runner idx (limOf limit tc now)).1).status with
    | code c =>
      simp only
      by_cases hc : c = skipCodeOf tc
      · exact ⟨[], [_], _, .skip tc rest idx now (.inl (hc ▸ hs)), if_pos hc⟩
      · rw [if_neg hc]
        exact next _ (.inl ⟨c, hs, hc, rfl⟩)
    | timeout => exact ⟨[_], [_], _, .timeout tc rest idx now hs, rfl⟩
    | skipped => exact ⟨[], [_], _, .skip tc rest idx now (.inr hs), rfl⟩
    | detached => exact next _ (.inr ⟨hs, rfl⟩)
    | unknown => exact ⟨_, [_], _, .unknown tc rest idx now hs, by rw [List.append_assoc]; rfl⟩

theorem execAll_run (total : Option Nat) (runner : Runner) (tcs : List TC) :
    ∃ news k, Run (totalLimit total) runner tcs 0 0 news (execAll total runner tcs).2 k ∧
      (execAll total runner tcs).1 = build k news := by
  obtain ⟨news, newl, k, hrun, heq⟩ := execLoop_run (totalLimit total) runner tcs 0 0 [] []
  rw [List.nil_append, List.nil_append] at heq
  rw [execAll, heq]
  exact ⟨news, k, hrun, rfl⟩

section Inversion
variable {total : Option Nat} {runner : Runner} {tcs : List TC}

theorem execAll_ok {outs : List Out} (h : (execAll total runner tcs).1 = .ok outs) :
    Run (totalLimit total) runner tcs 0 0 outs (execAll total runner tcs).2 .ok := by
  obtain ⟨news, k, hrun, heq⟩ := execAll_run total runner tcs
  rw [heq] at h
  cases k <;> cases h
  exact hrun

theorem execAll_timeout {g : Bool} {i : Nat} {outs : List Out}
    (h : (execAll total runner tcs).1 = .timeout g i outs) :
    Run (totalLimit total) runner tcs 0 0 outs (execAll total runner tcs).2 (.timeout g i) := by
  obtain ⟨news, k, hrun, heq⟩ := execAll_run total runner tcs
  rw [heq] at h
  cases k <;> cases h
  exact hrun

theorem execAll_skipped {i : Nat} (h : (execAll total runner tcs).1 = .skipped i) :
    ∃ news, Run (totalLimit total) runner tcs 0 0 news (execAll total runner tcs).2 (.skipped i) := by
  obtain ⟨news, k, hrun, heq⟩ := execAll_run total runner tcs
  rw [heq] at h
  cases k <;> cases h
  exact ⟨news, hrun⟩

end Inversion

section RunInv
variable {limit : Option Nat} {runner : Runner} {tcs : List TC} {idx now : Nat}
  {news : List Out} {newl : List (Option Nat)} {k : Kind}

theorem Run.lengths (h : Run limit runner tcs idx now news newl k) :
    newl.length ≤ tcs.length ∧
    (k = .ok → news.length = tcs.length ∧
      ((∀ o ∈ news, o.status ≠ .unknown) → newl.length = tcs.length)) := by
  induction h with
  | nil => exact ⟨Nat.le_refl 0, fun _ => ⟨rfl, fun _ => rfl⟩⟩
  | skip | timeout => exact ⟨Nat.succ_le_succ (Nat.zero_le _), nofun⟩
  | unknown _ _ _ _ hs =>
    exact ⟨Nat.succ_le_succ (Nat.zero_le _), fun _ =>
      ⟨by simp, fun hu => absurd hs (hu _ (List.mem_cons_self ..))⟩⟩
  | step _ _ _ _ _ _ _ _ _ _ ih =>
    refine ⟨Nat.succ_le_succ ih.1, fun hk => ?_⟩
    obtain ⟨h1, h2⟩ := ih.2 hk
    exact ⟨congrArg (· + 1) h1, fun hu =>
      congrArg (· + 1) (h2 fun o ho => hu o (List.mem_cons_of_mem _ ho))⟩

theorem Run.pushed (h : Run limit runner tcs idx now news newl k) :
    ∀ (j : Nat) (o : Out), news[j]? = some o →
      o.status ≠ .skipped ∧ ∀ c, o.status = .code c → ∃ lim, (runner (idx + j) lim).1 = o := by
  induction h with
  | nil | skip => exact fun _ _ hj => nomatch hj
  | timeout _ _ _ _ hs =>
    intro j o hj
    rw [List.mem_singleton.1 (List.mem_of_getElem? hj), hs]
    exact ⟨nofun, nofun⟩
  | unknown _ _ _ _ hs =>
    intro j o hj
    rcases List.mem_cons.1 (List.mem_of_getElem? hj) with rfl | ho
    · rw [hs]
      exact ⟨nofun, nofun⟩
    · obtain ⟨_, _, rfl⟩ := List.mem_map.1 ho
      exact ⟨nofun, nofun⟩
  | step tc _ idx now _ _ _ _ hs _ ih =>
    rintro (_ | j) o hj
    · cases hj
      rcases hs with ⟨c, hc, _, rfl⟩ | ⟨_, rfl⟩
      · exact ⟨by rw [hc]; exact nofun, fun _ _ => ⟨limOf limit tc now, rfl⟩⟩
      · exact ⟨nofun, nofun⟩
    · refine (ih j o hj).imp_right fun h c hc => ?_
      obtain ⟨lim, hl⟩ := h c hc
      exact ⟨lim, by rw [← hl, Nat.add_right_comm, Nat.add_assoc]⟩

theorem Run.timeout_spec (h : Run limit runner tcs idx now news newl k) {g : Bool} {i : Nat}
    (hk : k = .timeout g i) :
    ∃ d, i = idx + d ∧ d < tcs.length ∧ news.length = d + 1 ∧
      (∃ o, news[d]? = some o ∧ o.status = .timeout) ∧
      ∃ lim, newl[d]? = some lim ∧ ((runner i lim).1).status = .timeout := by
  induction h with
  | nil | skip | unknown => cases hk
  | timeout tc rest _ _ hs =>
    cases hk
    exact ⟨0, rfl, Nat.zero_lt_succ _, rfl, ⟨_, rfl, hs⟩, _, rfl, hs⟩
  | step _ _ idx _ _ _ _ _ _ _ ih =>
    obtain ⟨d, hi, hd, hlen, ho, hl⟩ := ih hk
    exact ⟨d + 1, hi.trans (Nat.add_right_comm idx 1 d), Nat.succ_lt_succ hd, congrArg (· + 1) hlen,
      ho, hl⟩

theorem Run.skipped_spec (h : Run limit runner tcs idx now news newl k) {i : Nat}
    (hk : k = .skipped i) :
    ∃ d, i = idx + d ∧ ∃ tc lim, tcs[d]? = some tc ∧
      (((runner i lim).1).status = .code (skipCodeOf tc) ∨ ((runner i lim).1).status = .skipped) := by
  induction h with
  | nil | timeout | unknown => cases hk
  | skip tc _ _ now hs =>
    cases hk
    exact ⟨0, rfl, tc, limOf limit tc now, rfl, hs⟩
  | step _ _ idx _ _ _ _ _ _ _ ih =>
    obtain ⟨d, hi, tc, lim, htc, hst⟩ := ih hk
    exact ⟨d + 1, hi.trans (Nat.add_right_comm idx 1 d), tc, lim, htc, hst⟩

end RunInv

theorem execLoop_limit_head (limit : Option Nat) (runner : Runner) (tc : TC) (rest : List TC)
    (idx now : Nat) (acc : List Out) (limits : List (Option Nat)) :
    (execLoop limit runner (tc :: rest) idx now acc limits).2[limits.length]? =
      some (limOf limit tc now) := by
  obtain ⟨news, newl, k, hrun, heq⟩ := execLoop_run limit runner (tc :: rest) idx now acc limits
  rw [heq]
  show (limits ++ newl)[limits.length]? = _
  rw [List.getElem?_append_right (Nat.le_refl _), Nat.sub_self]
  cases hrun <;> rfl

theorem mem_judge (tcs : List TC) :
    ∀ (outs : List Out) (k i : Nat) (v : Verdict),
      (i, v) ∈ judge tcs outs k ↔
        ∃ d, i = k + d ∧ ∃ tc o, tcs[d]? = some tc ∧ outs[d]? = some o ∧
          o.status ≠ .detached ∧ v = validate tc o := by
  induction tcs with
  | nil =>
    intro outs k i v
    exact ⟨nofun, fun ⟨_, _, _, _, h, _⟩ => nomatch h⟩
  | cons tc tcs ih =>
    intro outs k i v
    cases outs with
    | nil => exact ⟨nofun, fun ⟨_, _, _, _, _, h, _⟩ => nomatch h⟩
    | cons o os =>
      -- a witness of the right side is the head pair (`d = 0`) or one for the tails, shifted
      have step : (∃ d, i = k + d ∧ ∃ tc' o', (tc :: tcs)[d]? = some tc' ∧ (o :: os)[d]? = some o' ∧
            o'.status ≠ .detached ∧ v = validate tc' o') ↔
          (i = k ∧ o.status ≠ .detached ∧ v = validate tc o) ∨ (i, v) ∈ judge tcs os (k + 1) := by
        rw [ih]
        constructor
        · rintro ⟨_ | d, h1, tc', o', h2, h3, h4, h5⟩
          · cases h2
            cases h3
            exact .inl ⟨h1, h4, h5⟩
          · exact .inr ⟨d, h1.trans (Nat.add_right_comm k d 1), tc', o', h2, h3, h4, h5⟩
        · rintro (⟨h1, h4, h5⟩ | ⟨d, h1, h⟩)
          · exact ⟨0, h1, tc, o, rfl, rfl, h4, h5⟩
          · exact ⟨d + 1, h1.trans (Nat.add_right_comm k 1 d), h⟩
      rw [step, judge]
      by_cases hd : o.status = .detached
      · rw [if_pos hd]
        exact ⟨.inr, fun h => h.resolve_left (fun h => h.2.1 hd)⟩
      · rw [if_neg hd, List.mem_cons, Prod.mk.injEq]
        exact or_congr_left ⟨fun h => ⟨h.1, hd, h.2⟩, fun h => ⟨h.1, h.2.2⟩⟩

theorem mem_judge_zero (tcs : List TC) (outs : List Out) (i : Nat) (v : Verdict) :
    (i, v) ∈ judge tcs outs 0 ↔
      ∃ tc o, tcs[i]? = some tc ∧ outs[i]? = some o ∧ o.status ≠ .detached ∧ v = validate tc o := by
  simpa only [Nat.zero_add, exists_eq_left'] using mem_judge tcs outs 0 i v

theorem exists_mem_judge_zero {tcs : List TC} (outs : List Out) {i : Nat} (hi : i < tcs.length) :
    (∃ v, (i, v) ∈ judge tcs outs 0) ↔ ∃ o, outs[i]? = some o ∧ o.status ≠ .detached := by
  constructor
  · rintro ⟨v, hv⟩
    obtain ⟨tc, o, _, h2, h3, _⟩ := (mem_judge_zero tcs outs i v).1 hv
    exact ⟨o, h2, h3⟩
  · rintro ⟨o, h2, h3⟩
    exact ⟨validate tcs[i] o,
      (mem_judge_zero tcs outs i _).2 ⟨tcs[i], o, List.getElem?_eq_getElem hi, h2, h3, rfl⟩⟩

/-- the reported indices are in test order and belong to test cases that have an output: a
    detached output drops its index, nothing else does -/
theorem judge_sublist : ∀ (tcs : List TC) (outs : List Out) (k : Nat),
    ((judge tcs outs k).map (·.1)).Sublist (List.range' k (min tcs.length outs.length))
  | [], _, _ => by simp [judge]
  | _ :: _, [], _ => by simp [judge]
  | tc :: tcs, o :: os, k => by
    rw [judge, List.length_cons, List.length_cons, Nat.succ_min_succ, List.range'_succ]
    split
    · exact (judge_sublist tcs os (k + 1)).cons k
    · exact (judge_sublist tcs os (k + 1)).cons_cons k

theorem judge_zero_sublist (tcs : List TC) (outs : List Out) :
    ((judge tcs outs 0).map (·.1)).Sublist (List.range (min tcs.length outs.length)) := by
  rw [List.range_eq_range']
  exact judge_sublist tcs outs 0

theorem runDocument_ok (tcs : List TC) (outs : List Out) :
    runDocument tcs (.ok outs) = judge tcs outs 0 := rfl

theorem runDocument_skipped (tcs : List TC) (i : Nat) :
    runDocument tcs (.skipped i) = (List.range tcs.length).map (fun j => (j, Verdict.skipped)) := rfl

theorem runDocument_timeout (tcs : List TC) (g : Bool) (i : Nat) (outs : List Out) :
    runDocument tcs (.timeout g i outs) =
      judge tcs outs 0 ++
        (List.range (tcs.length - outs.length)).map (fun k => (outs.length + k, Verdict.skipped)) := rfl

theorem mem_runDocument_timeout {tcs : List TC} {g : Bool} {i : Nat} {outs : List Out} {j : Nat}
    {v : Verdict} :
    (j, v) ∈ runDocument tcs (.timeout g i outs) ↔
      (∃ tc o, tcs[j]? = some tc ∧ outs[j]? = some o ∧ o.status ≠ .detached ∧ v = validate tc o) ∨
      (outs.length ≤ j ∧ j < tcs.length ∧ v = .skipped) := by
  rw [runDocument_timeout, List.mem_append, mem_judge_zero]
  refine or_congr Iff.rfl ?_
  simp only [List.mem_map, List.mem_range, Prod.mk.injEq]
  constructor
  · rintro ⟨k, hk, rfl, rfl⟩
    exact ⟨Nat.le_add_right _ _, Nat.add_lt_of_lt_sub' hk, rfl⟩
  · rintro ⟨h1, h2, rfl⟩
    exact ⟨j - outs.length, Nat.sub_lt_sub_right h1 h2, Nat.add_sub_cancel' h1, rfl⟩

abbrev skippedAll (n : Nat) : List Outcome := (List.range n).map (fun i => (i, Verdict.skipped))

theorem mem_skippedAll {n j : Nat} {v : Verdict} : (j, v) ∈ skippedAll n ↔ j < n ∧ v = .skipped := by
  simp only [skippedAll, List.mem_map, List.mem_range, Prod.mk.injEq]
  exact ⟨fun ⟨_, h, rfl, e⟩ => ⟨h, e.symm⟩, fun ⟨h, e⟩ => ⟨j, h, rfl, e.symm⟩⟩

theorem map_fst_skippedAll (n : Nat) : (skippedAll n).map (·.1) = List.range n := by
  rw [skippedAll, List.map_map]
  exact List.map_id _

theorem any_isFailure_skippedAll (n : Nat) : (skippedAll n).any (fun o => isFailure o.2) = false := by
  rw [skippedAll, List.any_map]
  exact List.any_eq_false.2 (fun _ _ => nofun)

theorem runDocument_sublist (tcs : List TC) (r : ExecResult) :
    ((runDocument tcs r).map (·.1)).Sublist (List.range tcs.length) := by
  cases r with
  | ok outs =>
    exact (judge_zero_sublist tcs outs).trans
      (List.range_sublist.2 (Nat.min_le_left ..))
  | skipped i => rw [runDocument_skipped, map_fst_skippedAll]; exact List.Sublist.refl _
  | timeout g i outs =>
    rw [runDocument_timeout, List.map_append, List.map_map]
    -- `range (min n m) ++ [m, …, n - 1]` is `range n` (if `n < m` the second part is empty)
    have : List.range (min tcs.length outs.length) ++
        (List.range (tcs.length - outs.length)).map (outs.length + ·) = List.range tcs.length := by
      rcases Nat.le_total outs.length tcs.length with h | h
      · rw [Nat.min_eq_right h, ← List.range_add, Nat.add_sub_cancel' h]
      · rw [Nat.min_eq_left h, Nat.sub_eq_zero_of_le h, List.range_zero, List.map_nil, List.append_nil]
    rw [← this]
    exact (judge_zero_sublist tcs outs).append (List.Sublist.refl _)

theorem judge_map_fst (tcs : List TC) : ∀ (os : List Out) (k : Nat), os.length = tcs.length →
    (∀ o ∈ os, o.status ≠ .detached) → (judge tcs os k).map (·.1) = List.range' k tcs.length := by
  induction tcs with
  | nil => intro os k hlen _; cases os <;> first | rfl | cases hlen
  | cons tc tcs ih =>
    intro os k hlen hd
    cases os with
    | nil => cases hlen
    | cons o os =>
      rw [judge, if_neg (hd o (List.mem_cons_self ..)), List.map_cons, List.length_cons,
        List.range'_succ, ih os (k + 1) (Nat.succ.inj hlen) (fun o' ho' => hd o' (List.mem_cons_of_mem _ ho'))]

theorem runDocument_codes (tcs : List TC) (xs : List Out) (hlen : xs.length = tcs.length)
    (hc : ∀ o ∈ xs, ∃ c, o.status = .code c) :
    (runDocument tcs (.ok xs)).map (·.1) = List.range tcs.length ∧
    ∀ i v, (i, v) ∈ runDocument tcs (.ok xs) →
      (∃ tc o, tcs[i]? = some tc ∧ xs[i]? = some o ∧ v = validate tc o) ∧
      (v = .ok ∨ v = .malformed ∨ ∃ a e, v = .invalidExit a e) := by
  refine ⟨?_, ?_⟩
  · rw [runDocument_ok, List.range_eq_range']
    refine judge_map_fst tcs xs 0 hlen (fun o ho hd => ?_)
    obtain ⟨c, hc⟩ := hc o ho
    rw [hd] at hc
    cases hc
  · intro i v hv
    obtain ⟨tc, o, h1, h2, _, rfl⟩ := (mem_judge_zero tcs xs i v).1 hv
    obtain ⟨c, hc⟩ := hc o (List.mem_of_getElem? h2)
    exact ⟨⟨tc, o, h1, h2, rfl⟩, validate_code_kinds tc o c hc⟩

/-- the first test case whose command ended with its skip code -/
def firstSkipCode (tcs : List TC) (os : List Out) : Option Nat :=
  (tcs.zip os).findIdx? (fun p => p.2.status = .code (skipCodeOf p.1))

/-- the induction is on `execLoop` itself: with completed commands a step of the loop has one case,
and the clock and the limits play no part -/
theorem execLoop_codes (limit : Option Nat) (runner : Runner) :
    ∀ (tcs : List TC) (os : List Out) (idx now : Nat) (acc : List Out) (limits : List (Option Nat)),
      os.length = tcs.length →
      (∀ j o, os[j]? = some o → (∃ c, o.status = .code c) ∧ ∀ lim, (runner (idx + j) lim).1 = o) →
      (execLoop limit runner tcs idx now acc limits).1 =
        match firstSkipCode tcs os with
        | some k => .skipped (idx + k)
        | none => .ok (acc ++ os) := by
  intro tcs
  induction tcs with
  | nil =>
    intro os idx now acc limits hlen _
    cases os with
    | nil => simp [execLoop, firstSkipCode]
    | cons => cases hlen
  | cons tc rest ih =>
    intro os idx now acc limits hlen hr
    cases os with
    | nil => cases hlen
    | cons o os =>
      obtain ⟨⟨c, hc⟩, hrun⟩ := hr 0 o rfl
      rw [Nat.add_zero] at hrun
      rw [execLoop_cons, hrun, hc]
      simp only [firstSkipCode, List.zip_cons_cons, List.findIdx?_cons, hc, Status.code.injEq, decide_eq_true_eq]
      by_cases hk : c = skipCodeOf tc
      · simp [hk]
      · rw [if_neg hk, if_neg hk, ih os (idx + 1) _ (acc ++ [o]) _ (Nat.succ.inj hlen)
          (fun j o' hj => by
            have := hr (j + 1) o' hj
            rwa [show idx + (j + 1) = idx + 1 + j by omega] at this)]
        unfold firstSkipCode
        cases (rest.zip os).findIdx? _ <;> simp [Nat.add_assoc, Nat.add_comm 1]

theorem judge_eq_mapIdx (tcs : List TC) : ∀ (os : List Out) (k : Nat), (∀ o ∈ os, o.status ≠ .detached) →
    judge tcs os k = (tcs.zip os).mapIdx (fun i p => (k + i, validate p.1 p.2)) := by
  induction tcs with
  | nil => intro os k _; simp [judge]
  | cons tc tcs ih =>
    intro os k hd
    cases os with
    | nil => simp [judge]
    | cons o os =>
      rw [judge, if_neg (hd o (List.mem_cons_self ..)), List.zip_cons_cons, List.mapIdx_cons,
        ih os (k + 1) (fun o' ho' => hd o' (List.mem_cons_of_mem _ ho'))]
      simp [Nat.add_assoc, Nat.add_comm 1]

/-- `runDocument_codes` is about given outputs of a regular end; here the loop is run as well -/
theorem runDocument_completed (total : Option Nat) (runner : Runner) (tcs : List TC) (os : List Out)
    (hlen : os.length = tcs.length)
    (hrun : ∀ j o, os[j]? = some o → (∃ c, o.status = .code c) ∧ ∀ lim, (runner j lim).1 = o) :
    runDocument tcs (execAll total runner tcs).1 =
      if (tcs.zip os).any (fun p => p.2.status = .code (skipCodeOf p.1)) then skippedAll tcs.length
      else (tcs.zip os).mapIdx (fun i p => (i, validate p.1 p.2)) := by
  rw [execAll, execLoop_codes _ runner tcs os 0 0 [] [] hlen (by simpa using hrun),
    ← List.findIdx?_isSome, firstSkipCode]
  cases (tcs.zip os).findIdx? _ with
  | some k => rfl
  | none =>
    have hnd : ∀ o ∈ os, o.status ≠ .detached := fun o ho hd => by
      obtain ⟨j, hj, rfl⟩ := List.getElem_of_mem ho
      obtain ⟨⟨c, hc⟩, _⟩ := hrun j _ (List.getElem?_eq_getElem hj)
      rw [hd] at hc
      cases hc
    simp only [Option.isSome_none, Bool.false_eq_true, if_false, List.nil_append, runDocument_ok,
      judge_eq_mapIdx tcs os 0 hnd, Nat.zero_add]

theorem succeeded_only_if_ran (total : Option Nat) (runner : Runner) (tcs : List TC)
    (i : Nat) (h : (i, Verdict.ok) ∈ runDocument tcs (execAll total runner tcs).1) :
    ∃ tc lim, tcs[i]? = some tc ∧ ((runner i lim).1).status = .code (tc.expected.getD 0) := by
  obtain ⟨news, k, hrun, heq⟩ := execAll_run total runner tcs
  rw [heq] at h
  -- an outcome other than `skipped` is a judged output
  have hj : ∃ tc o, tcs[i]? = some tc ∧ news[i]? = some o ∧ o.status ≠ .detached ∧
      Verdict.ok = validate tc o := by
    cases k with
    | ok => exact (mem_judge_zero tcs news i .ok).1 h
    | skipped j => exact nomatch (mem_skippedAll.1 h).2
    | timeout g j => exact (mem_runDocument_timeout.1 h).resolve_right (fun h => nomatch h.2.2)
  obtain ⟨tc, o, h1, h2, _, h4⟩ := hj
  obtain ⟨c, hc, rfl, _⟩ := (validate_ok_iff tc o).1 h4.symm
  obtain ⟨lim, hl⟩ := (hrun.pushed i o h2).2 _ hc
  rw [Nat.zero_add] at hl
  exact ⟨tc, lim, h1, by rw [hl, hc]⟩

theorem abort_and_skip (total : Option Nat) (runner : Runner) (tcs : List TC)
    (g : Bool) (i : Nat) (outs : List Out)
    (h : (execAll total runner tcs).1 = .timeout g i outs) :
    i < tcs.length ∧
    (∀ v, (i, v) ∈ runDocument tcs (.timeout g i outs) → v = .timeout) ∧
    (i, Verdict.timeout) ∈ runDocument tcs (.timeout g i outs) ∧
    (∀ j, i < j → j < tcs.length → (j, Verdict.skipped) ∈ runDocument tcs (.timeout g i outs)) ∧
    (∀ j v, i < j → (j, v) ∈ runDocument tcs (.timeout g i outs) → v = .skipped) := by
  obtain ⟨d, hi, hd, hlen, ⟨o, ho, hst⟩, _⟩ := (execAll_timeout h).timeout_spec rfl
  rw [Nat.zero_add] at hi
  subst hi
  simp only [mem_runDocument_timeout, hlen]
  refine ⟨hd, ?_, ?_, ?_, ?_⟩
  · rintro v (⟨tc, o', _, h2, _, rfl⟩ | ⟨h1, _⟩)
    · rw [ho] at h2
      cases h2
      exact validate_timeout tc o hst
    · exact absurd h1 (Nat.not_succ_le_self i)
  · exact .inl ⟨tcs[i], o, List.getElem?_eq_getElem hd, ho, by rw [hst]; exact nofun,
      (validate_timeout _ o hst).symm⟩
  · intro j hij hj
    exact .inr ⟨hij, hj, trivial⟩
  · rintro j v hij (⟨_, _, _, h2, _⟩ | ⟨_, _, rfl⟩)
    · have := (List.getElem?_eq_some_iff.1 h2).1
      omega
    · rfl

theorem skipped_after_timeout (total : Option Nat) (runner : Runner) (tcs : List TC)
    (g : Bool) (i : Nat) (outs : List Out)
    (h : (execAll total runner tcs).1 = .timeout g i outs) :
    ∀ j, (j, Verdict.skipped) ∈ runDocument tcs (.timeout g i outs) ↔ (i < j ∧ j < tcs.length) := by
  have hrun := execAll_timeout h
  obtain ⟨d, hi, _, hlen, _⟩ := hrun.timeout_spec rfl
  rw [Nat.zero_add] at hi
  subst hi
  intro j
  rw [mem_runDocument_timeout, hlen]
  constructor
  · rintro (⟨tc, o, _, h2, _, h4⟩ | ⟨h1, h2, _⟩)
    · exact absurd ((validate_skipped_iff tc o).1 h4.symm) (hrun.pushed j o h2).1
    · exact ⟨h1, h2⟩
  · rintro ⟨h1, h2⟩
    exact .inr ⟨h1, h2, rfl⟩

theorem exitStatus_spec (docs : List (Option (List Outcome))) :
    (exitStatus docs = 1 ↔ ∃ d ∈ docs, d = none) ∧
    (exitStatus docs = 50 ↔ (∀ d ∈ docs, d ≠ none) ∧ ∃ d ∈ docs, ∃ os, d = some os ∧ ∃ o ∈ os, isFailure o.2 = true) ∧
    (exitStatus docs = 0 ↔ (∀ d ∈ docs, d ≠ none) ∧ ∀ d ∈ docs, ∀ os, d = some os → ∀ o ∈ os, isFailure o.2 = false) ∧
    (exitStatus docs = 0 ∨ exitStatus docs = 50 ∨ exitStatus docs = 1) := by
  -- the two tests of `exitStatus` and their negations, as statements about the documents
  have h1 : (∃ d ∈ docs, d = none) ↔ docs.any (·.isNone) = true := by
    simp only [List.any_eq_true, Option.isNone_iff_eq_none]
  have h2 : (∀ d ∈ docs, d ≠ none) ↔ docs.any (·.isNone) = false := by
    simp only [List.any_eq_false, Option.isNone_iff_eq_none, ne_eq]
  have h3 : (∃ d ∈ docs, ∃ os, d = some os ∧ ∃ o ∈ os, isFailure o.2 = true) ↔
      docs.any (fun d => (d.getD []).any (fun o => isFailure o.2)) = true := by
    rw [List.any_eq_true]
    simp only [any_getD_nil]
  have h4 : (∀ d ∈ docs, ∀ os, d = some os → ∀ o ∈ os, isFailure o.2 = false) ↔
      docs.any (fun d => (d.getD []).any (fun o => isFailure o.2)) = false := by
    rw [List.any_eq_false]
    simp only [any_getD_nil, not_exists, not_and, Bool.not_eq_true]
  rw [h1, h2, h3, h4]
  unfold exitStatus
  cases docs.any (·.isNone) <;>
    cases docs.any (fun d => (d.getD []).any (fun o => isFailure o.2)) <;> decide

theorem exitStatus_neutral (pre post : List (Option (List Outcome))) (os : List Outcome)
    (h : os.any (fun o => isFailure o.2) = false) :
    exitStatus (pre ++ [some os] ++ post) = exitStatus (pre ++ post) := by
  simp only [exitStatus, List.any_append, List.any_cons, List.any_nil, Option.isNone_some,
    Option.getD_some, h, Bool.or_false]

theorem exitStatus_skippedAll (n : Nat) : exitStatus [some (skippedAll n)] = 0 :=
  exitStatus_neutral [] [] _ (any_isFailure_skippedAll n)

theorem exitStatus_one (os : List Outcome) :
    exitStatus [some os] = if os.any (fun o => isFailure o.2) then 50 else 0 := by
  cases h : os.any (fun o => isFailure o.2) <;> simp [exitStatus, h]

theorem exitStatus_one_spec (os : List Outcome) :
    (exitStatus [some os] = 50 ↔ ∃ o ∈ os, isFailure o.2 = true) ∧
    (exitStatus [some os] = 0 ↔ ∀ o ∈ os, isFailure o.2 = false) ∧
    exitStatus [some os] ≠ 1 := by
  obtain ⟨h1, h50, h0, _⟩ := exitStatus_spec [some os]
  simp only [List.mem_singleton, exists_eq_left, forall_eq, reduceCtorEq, Option.some.injEq,
    exists_eq_left', forall_eq', not_false_eq_true, true_and, ne_eq] at h1 h50 h0
  exact ⟨h50, h0, fun h => (h1.1 h).elim⟩

/-- the two shapes of a report on completed commands -- every test `skipped`, or one verdict per
test, none of them `skipped` -- read as the statements of C15.  `s` says which shape it is: the
callers put `skips tests runs` (one process per test) or `scriptSkips tests runs` (one script) there -/
theorem report_shape {n status : Nat} {outcomes : List Outcome} {s : Bool}
    (hst : status = exitStatus [some outcomes])
    (h : (s = true ∧ outcomes = (List.range n).map (fun i => (i, Verdict.skipped))) ∨
      (s = false ∧ outcomes.map (·.1) = List.range n ∧
        ∀ o ∈ outcomes, o.2 = .ok ∨ o.2 = .malformed ∨ ∃ c e, o.2 = .invalidExit c e)) :
    (s = true → outcomes = (List.range n).map (fun i => (i, Verdict.skipped)) ∧ status = 0) ∧
    (∀ i, (i, Verdict.skipped) ∈ outcomes ↔ (i < n ∧ s = true)) ∧
    (∀ o ∈ outcomes, o.2 = .ok ∨ o.2 = .malformed ∨ o.2 = .skipped ∨ ∃ c e, o.2 = .invalidExit c e) := by
  rcases h with ⟨hs, rfl⟩ | ⟨hs, _, hv⟩
  · refine ⟨fun _ => ⟨rfl, by rw [hst]; exact exitStatus_skippedAll n⟩, fun i => by simp [hs], ?_⟩
    intro o ho
    obtain ⟨j, _, rfl⟩ := List.mem_map.1 ho
    exact .inr (.inr (.inl rfl))
  · refine ⟨fun h => (by rw [hs] at h; cases h), fun i => ?_, fun o ho => ?_⟩
    · rw [hs]
      constructor
      · intro hi
        rcases hv _ hi with h1 | h1 | ⟨c, e, h1⟩ <;> cases h1
      · rintro ⟨_, hf⟩; cases hf
    · rcases hv o ho with h1 | h1 | h1
      · exact .inl h1
      · exact .inr (.inl h1)
      · exact .inr (.inr (.inr h1))

/-- index of the first parsed output that carries the (shared) skip code -/
def skipAt (tcs : List TC) (outs : List Out) : Option Nat :=
  outs.findIdx? (fun o => o.status = .code (scriptSkip tcs))

theorem skipAt_eq_some {tcs : List TC} {outs : List Out} {i : Nat} (h : skipAt tcs outs = some i) :
    ∃ o, outs[i]? = some o ∧ o.status = .code (scriptSkip tcs) := by
  obtain ⟨hlt, hp, _⟩ := List.findIdx?_eq_some_iff_getElem.1 h
  exact ⟨outs[i], List.getElem?_eq_getElem hlt, of_decide_eq_true hp⟩

theorem skipAt_eq_none {tcs : List TC} {outs : List Out} :
    skipAt tcs outs = none ↔ ∀ o ∈ outs, o.status ≠ .code (scriptSkip tcs) := by
  simp only [skipAt, List.findIdx?_eq_none_iff, decide_eq_false_iff_not, ne_eq]

theorem skipAt_isSome {tcs : List TC} {outs : List Out}
    (h : ∃ o ∈ outs, o.status = .code (scriptSkip tcs)) : ∃ i, skipAt tcs outs = some i := by
  cases hs : skipAt tcs outs with
  | some i => exact ⟨i, rfl⟩
  | none =>
    obtain ⟨o, ho, hc⟩ := h
    exact absurd hc (skipAt_eq_none.1 hs o ho)

/-- the decisions of `execScript` in their order: the skip code as the script's own status, then
    a skip code among the parsed outputs, then the status of the script -/
theorem execScript_eq (tcs : List TC) (script : Status) (outs : List Out) :
    execScript tcs script outs =
      if script = .code (scriptSkip tcs) then some (.skipped 0)
      else match skipAt tcs outs with
        | some i => some (.skipped i)
        | none =>
          match script with
          | .timeout => some (.timeout true 0 [⟨.timeout, false, false⟩])
          | .unknown => none
          | _ => if outs.length = tcs.length then some (.ok outs) else none := by
  unfold execScript skipAt
  simp only
  cases outs.findIdx? (fun o => decide (o.status = .code (scriptSkip tcs))) <;> cases script <;> simp

theorem execScript_skipAt {tcs : List TC} {script : Status} {outs : List Out} {i : Nat}
    (hs : script ≠ .code (scriptSkip tcs)) (h : skipAt tcs outs = some i) :
    execScript tcs script outs = some (.skipped i) := by
  rw [execScript_eq, if_neg hs, h]

theorem execScript_skipped_cause (tcs : List TC) (script : Status) (outs : List Out) (i : Nat)
    (h : execScript tcs script outs = some (.skipped i)) :
    (script = .code (scriptSkip tcs) ∧ i = 0) ∨
    ∃ o, outs[i]? = some o ∧ o.status = .code (scriptSkip tcs) := by
  rw [execScript_eq] at h
  by_cases hs : script = .code (scriptSkip tcs)
  · rw [if_pos hs] at h
    cases h
    exact .inl ⟨hs, rfl⟩
  · rw [if_neg hs] at h
    cases hi : skipAt tcs outs with
    | some j =>
      rw [hi] at h
      cases h
      exact .inr (skipAt_eq_some hi)
    | none =>
      -- without a skip code the result is a timeout, an error or the parsed outputs
      rw [hi] at h
      cases script <;> simp at h

theorem execScript_code_inv (tcs : List TC) (c : Int) (outs : List Out) (r : ExecResult)
    (h : execScript tcs (.code c) outs = some r) :
    (r = .ok outs ∧ outs.length = tcs.length ∧ c ≠ scriptSkip tcs ∧
      ∀ o ∈ outs, o.status ≠ .code (scriptSkip tcs)) ∨
    ∃ i, r = .skipped i ∧ (c = scriptSkip tcs ∨ ∃ o ∈ outs, o.status = .code (scriptSkip tcs)) := by
  rw [execScript_eq] at h
  by_cases hc : c = scriptSkip tcs
  · rw [if_pos (by rw [hc])] at h
    cases h
    exact .inr ⟨0, rfl, .inl hc⟩
  · rw [if_neg (fun he => hc (Status.code.inj he))] at h
    cases hs : skipAt tcs outs with
    | some i =>
      rw [hs] at h
      cases h
      obtain ⟨o, ho, hso⟩ := skipAt_eq_some hs
      exact .inr ⟨i, rfl, .inr ⟨o, List.mem_of_getElem? ho, hso⟩⟩
    | none =>
      rw [hs] at h
      simp only at h
      split at h
      · rename_i hl
        cases h
        exact .inl ⟨rfl, hl, hc, skipAt_eq_none.1 hs⟩
      · cases h

theorem honest_eq (cmds : Nat → Nat × Out) (i : Nat) (lim : Option Nat) :
    honest cmds i lim =
      match lim with
      | some l => if l ≤ (cmds i).1 then (⟨.timeout, false, false⟩, l) else ((cmds i).2, (cmds i).1)
      | none => ((cmds i).2, (cmds i).1) := rfl

theorem honest_timeout (cmds : Nat → Nat × Out) (i : Nat) (hfin : (cmds i).2.status ≠ .timeout)
    (lim : Option Nat) (h : ((honest cmds i lim).1).status = .timeout) :
    ∃ l, lim = some l ∧ l ≤ (cmds i).1 := by
  rw [honest_eq] at h
  cases lim with
  | none => exact absurd h hfin
  | some l =>
    by_cases hl : l ≤ (cmds i).1
    · exact ⟨l, rfl, hl⟩
    · simp [hl] at h
      exact absurd h hfin

theorem honest_completed (cmds : Nat → Nat × Out) (i : Nat) (lim : Option Nat)
    (h : ((honest cmds i lim).1).status ≠ .timeout) :
    (honest cmds i lim).2 = (cmds i).1 ∧ ∀ l, lim = some l → (cmds i).1 < l := by
  rw [honest_eq] at h ⊢
  cases lim with
  | none => exact ⟨rfl, nofun⟩
  | some l =>
    by_cases hl : l ≤ (cmds i).1
    · simp [hl] at h
    · simp only [hl, if_false, Option.some.injEq, true_and]
      rintro _ rfl
      exact Nat.lt_of_not_le hl

/-- waits and durations of the commands of `tcs` (head index `idx`) added up: the time on the
    document's clock that `tcs` takes when every command runs to its end -/
def busy (cmds : Nat → Nat × Out) : List TC → Nat → Nat
  | [], _ => 0
  | tc :: rest, idx => tc.wait + (cmds idx).1 + busy cmds rest (idx + 1)

theorem busy_take_succ (cmds : Nat → Nat × Out) (tc : TC) (rest : List TC) (idx now d : Nat) :
    now + busy cmds ((tc :: rest).take (d + 1)) idx =
      now + tc.wait + (cmds idx).1 + busy cmds (rest.take d) (idx + 1) := by
  simp only [List.take_succ_cons, busy, Nat.add_assoc]

/-- a command that an honest runner ran to its end ended before the document limit; so it had time
    left after its wait, the wait was sat out in full (the cap did not bite), and the clock moved by
    wait and duration -/
theorem honest_next (limit : Option Nat) (cmds : Nat → Nat × Out) (tc : TC) (idx now : Nat)
    (h : ((honest cmds idx (limOf limit tc now)).1).status ≠ .timeout) :
    startOf limit tc now + (honest cmds idx (limOf limit tc now)).2 = now + tc.wait + (cmds idx).1 ∧
    ∀ L, limit = some L → now + tc.wait + (cmds idx).1 < L := by
  obtain ⟨he, hlt⟩ := honest_completed cmds idx _ h
  rw [he]
  cases limit with
  | none => exact ⟨rfl, nofun⟩
  | some L =>
    obtain ⟨l, hl, hle⟩ := limOf_le L tc now
    have hL : now + tc.wait + (cmds idx).1 < L :=
      Nat.add_lt_of_lt_sub' (Nat.lt_of_lt_of_le (hlt l hl) hle)
    have hw : tc.wait ≤ L - now :=
      Nat.le_sub_of_add_le' (Nat.le_trans (Nat.le_add_right _ _) (Nat.le_of_lt hL))
    refine ⟨?_, fun _ h => Option.some.inj h ▸ hL⟩
    show now + min tc.wait (L - now) + _ = _
    rw [Nat.min_eq_left hw]

section HonestRun
variable {limit : Option Nat} {cmds : Nat → Nat × Out} {tcs : List TC} {idx now : Nat}
  {news : List Out} {newl : List (Option Nat)} {k : Kind}

/-- the clock of a run under an honest runner: the commands in front of a runner call ran to their
    end, so the loop reaches test case `d` at `now + busy cmds (tcs.take d) idx`. In that closed form:
    the limit of every call, the bound by the document limit for every call that ran to its end
    (every call except a last one that timed out), and limit and attribution of a timeout. -/
theorem Run.honest_clock (h : Run limit (honest cmds) tcs idx now news newl k) :
    (∀ d lim, newl[d]? = some lim → ∃ tc, tcs[d]? = some tc ∧
        lim = limOf limit tc (now + busy cmds (tcs.take d) idx) ∧
        ∀ L, limit = some L → (d + 1 < newl.length ∨ ∀ g i, k ≠ .timeout g i) →
          now + busy cmds (tcs.take (d + 1)) idx < L) ∧
    ∀ g i, k = .timeout g i → ∃ d tc, i = idx + d ∧ tcs[d]? = some tc ∧
        newl[d]? = some (limOf limit tc (now + busy cmds (tcs.take d) idx)) ∧
        g = globOf limit tc (now + busy cmds (tcs.take d) idx) ∧
        ((honest cmds i (limOf limit tc (now + busy cmds (tcs.take d) idx))).1).status = .timeout := by
  induction h with
  | nil => exact ⟨nofun, nofun⟩
  | timeout tc _ idx now hs =>
    refine ⟨?_, ?_⟩
    · rintro (_ | d) lim ⟨⟩
      refine ⟨tc, rfl, rfl, fun L _ hc => ?_⟩
      rcases hc with hc | hc
      · exact absurd hc (Nat.lt_irrefl 1)
      · exact absurd rfl (hc _ _)
    · rintro _ _ ⟨⟩
      exact ⟨0, tc, rfl, rfl, rfl, rfl, hs⟩
  | skip tc _ idx now hs | unknown tc _ idx now hs =>
    have hnt : ((honest cmds idx (limOf limit tc now)).1).status ≠ .timeout := by
      intro ht
      rw [ht] at hs
      simp at hs
    refine ⟨?_, nofun⟩
    rintro (_ | d) lim ⟨⟩
    refine ⟨tc, rfl, rfl, fun L hL _ => ?_⟩
    rw [busy_take_succ]
    exact (honest_next limit cmds tc idx now hnt).2 L hL
  | step tc rest idx now o news newl k hs _ ih =>
    obtain ⟨hnext, hlt⟩ := honest_next limit cmds tc idx now hs.not_timeout
    -- the clock of the rest of the run, in terms of this one
    rw [hnext] at ih
    simp only [← busy_take_succ] at ih
    refine ⟨?_, ?_⟩
    · rintro (_ | d) lim hd
      · cases hd
        refine ⟨tc, rfl, rfl, fun L hL _ => ?_⟩
        rw [busy_take_succ]
        exact hlt L hL
      · obtain ⟨tc', h1, h2, h3⟩ := ih.1 d lim hd
        exact ⟨tc', h1, h2, fun L hL hc => h3 L hL (hc.imp Nat.lt_of_succ_lt_succ id)⟩
    · intro g i hk
      obtain ⟨d, tc', hi, h⟩ := ih.2 g i hk
      exact ⟨d + 1, tc', hi.trans (Nat.add_right_comm idx 1 d), h⟩

end HonestRun

/-- the limit that belongs to a START time `s` of test case `tc` (`limOf` is in terms of the time
    `now` at which the loop reaches the test case: `limAt_startOf`) -/
def limAt (limit : Option Nat) (tc : TC) (s : Nat) : Option Nat :=
  (effective tc.timeout (limit.map (· - s))).2

/-- the document's clock: `(start, end)` of every runner call of the loop, in order -/
def clockTrace (limit : Option Nat) (runner : Runner) : List TC → Nat → Nat → List (Nat × Nat)
  | [], _, _ => []
  | tc :: rest, idx, now =>
    let s := startOf limit tc now
    let r := runner idx (effective tc.timeout (limit.map (· - s))).2
    match r.1.status with
    | .code c =>
      if c = skipCodeOf tc then [(s, s + r.2)]
      else (s, s + r.2) :: clockTrace limit runner rest (idx + 1) (s + r.2)
    | .detached => (s, s + r.2) :: clockTrace limit runner rest (idx + 1) (s + r.2)
    | _ => [(s, s + r.2)]

theorem limAt_startOf (limit : Option Nat) (tc : TC) (now : Nat) :
    limAt limit tc (startOf limit tc now) = limOf limit tc now := by
  rw [limAt, sub_startOf]
  rfl

theorem clockTrace_cons (limit : Option Nat) (runner : Runner) (tc : TC) (rest : List TC)
    (idx now : Nat) :
    clockTrace limit runner (tc :: rest) idx now =
      match ((runner idx (limOf limit tc now)).1).status with
      | .code c =>
        if c = skipCodeOf tc then
          [(startOf limit tc now, startOf limit tc now + (runner idx (limOf limit tc now)).2)]
        else (startOf limit tc now, startOf limit tc now + (runner idx (limOf limit tc now)).2) ::
          clockTrace limit runner rest (idx + 1) (startOf limit tc now + (runner idx (limOf limit tc now)).2)
      | .detached =>
        (startOf limit tc now, startOf limit tc now + (runner idx (limOf limit tc now)).2) ::
          clockTrace limit runner rest (idx + 1) (startOf limit tc now + (runner idx (limOf limit tc now)).2)
      | _ => [(startOf limit tc now, startOf limit tc now + (runner idx (limOf limit tc now)).2)] := by
  rw [← limAt_startOf]
  rfl

theorem clockTrace_limits (limit : Option Nat) (runner : Runner) (tcs : List TC) :
    ∀ (idx now : Nat) (acc : List Out) (limits : List (Option Nat)),
      (execLoop limit runner tcs idx now acc limits).2 =
        limits ++ (tcs.zip (clockTrace limit runner tcs idx now)).map
          (fun p => limAt limit p.1 p.2.1) := by
  induction tcs with
  | nil => intros; simp [execLoop, clockTrace]
  | cons tc rest ih =>
    intro idx now acc limits
    rw [execLoop_cons, clockTrace_cons]
    cases ((runner idx (limOf limit tc now)).1).status with
    | code c => by_cases hc : c = skipCodeOf tc <;> simp [hc, ih, limAt_startOf]
    | detached => simp [ih, limAt_startOf]
    | _ => simp [limAt_startOf]

/-- start times along the trace, for ANY runner: each call is started at
    `min (previous end + wait) (max (previous end) L)` — past `L` only if the clock was already past `L`
    when the loop reached the test case, never because of a wait -/
theorem clockTrace_head (limit : Option Nat) (runner : Runner) (tc : TC) (rest : List TC)
    (idx now : Nat) :
    ∃ e tl, clockTrace limit runner (tc :: rest) idx now = (startOf limit tc now, e) :: tl ∧
      e = startOf limit tc now + (runner idx (limAt limit tc (startOf limit tc now))).2 ∧
      (tl = [] ∨ tl = clockTrace limit runner rest (idx + 1) e) := by
  rw [clockTrace_cons, limAt_startOf]
  split
  · split
    · exact ⟨_, [], rfl, rfl, .inl rfl⟩
    · exact ⟨_, _, rfl, rfl, .inr rfl⟩
  · exact ⟨_, _, rfl, rfl, .inr rfl⟩
  · exact ⟨_, [], rfl, rfl, .inl rfl⟩

/-- a runner that is back by the time its limit is up -/
def Punctual (runner : Runner) : Prop := ∀ i l, (runner i (some l)).2 ≤ l

theorem clockTrace_within (L : Nat) (runner : Runner) (hp : Punctual runner) (tcs : List TC) :
    ∀ (idx now : Nat), now ≤ L →
      ∀ se ∈ clockTrace (some L) runner tcs idx now, now ≤ se.1 ∧ se.1 ≤ se.2 ∧ se.2 ≤ L := by
  induction tcs with
  | nil => intro _ _ _ _ h; cases h
  | cons tc rest ih =>
    intro idx now hn se hse
    obtain ⟨e, tl, htr, he, htl⟩ := clockTrace_head (some L) runner tc rest idx now
    -- the wait is capped, so the call starts no later than `L`; it is handed at most what is left
    -- of `L` then, and a punctual runner is back within that
    have h0 : now ≤ startOf (some L) tc now := Nat.le_add_right _ _
    have hs : startOf (some L) tc now ≤ L :=
      Nat.le_trans (Nat.add_le_add_left (Nat.min_le_right _ _) now) (Nat.le_of_eq (Nat.add_sub_cancel' hn))
    have h1 : startOf (some L) tc now ≤ e := he ▸ Nat.le_add_right _ _
    have h2 : e ≤ L := by
      obtain ⟨l, hl, hle⟩ := effective_le tc.timeout (L - startOf (some L) tc now)
      rw [he, show limAt (some L) tc (startOf (some L) tc now) = some l from hl]
      exact Nat.le_trans (Nat.add_le_add_left (Nat.le_trans (hp idx l) hle) _)
        (Nat.le_of_eq (Nat.add_sub_cancel' hs))
    rw [htr] at hse
    rcases List.mem_cons.1 hse with rfl | hm
    · exact ⟨h0, h1, h2⟩
    · rcases htl with rfl | rfl
      · cases hm
      · obtain ⟨a, b, c⟩ := ih (idx + 1) e h2 se hm
        exact ⟨Nat.le_trans (Nat.le_trans h0 h1) a, b, c⟩

/-- the document of the bug report: limit 2 s; a 10 ms command, then a command that waits 1.5 s
    and runs 1.5 s, then a 10 ms command -/
def overrunTcs : List TC :=
  [⟨none, .stdout, none, none, true, 0⟩, ⟨none, .stdout, none, none, true, 1500⟩,
   ⟨none, .stdout, none, none, true, 0⟩]

def overrunCmds : Nat → Nat × Out := fun i =>
  if i = 1 then (1500, ⟨.code 0, true, true⟩) else (10, ⟨.code 0, true, true⟩)

/-- the loop as it was BEFORE the fix 5800e20: the remaining document time is looked at first, the wait
    passes afterwards (it moves the clock, but the limit handed to the runner ignores it) -/
def execLoopOld (limit : Option Nat) (runner : Runner) :
    (tcs : List TC) → (idx now : Nat) → (acc : List Out) → (limits : List (Option Nat)) →
    ExecResult × List (Option Nat)
  | [], _, _, acc, limits => (.ok acc, limits)
  | tc :: rest, idx, now, acc, limits =>
    let remaining := limit.map (· - now)
    let (isGlobal, lim) := effective tc.timeout remaining
    let now := now + tc.wait
    let (o, elapsed) := runner idx lim
    let limits := limits ++ [lim]
    match o.status with
    | .code c =>
      if c = skipCodeOf tc then (.skipped idx, limits)
      else execLoopOld limit runner rest (idx + 1) (now + elapsed) (acc ++ [o]) limits
    | .timeout => (.timeout isGlobal idx (acc ++ [o]), limits)
    | .skipped => (.skipped idx, limits)
    | .detached =>
      execLoopOld limit runner rest (idx + 1) (now + elapsed) (acc ++ [detachedOut]) limits
    | .unknown => (.ok (acc ++ [o] ++ rest.map unknownOut), limits)

theorem execLoopOld_eq_of_no_wait (limit : Option Nat) (runner : Runner) (tcs : List TC)
    (h : ∀ tc ∈ tcs, tc.wait = 0) :
    ∀ idx now acc limits,
      execLoopOld limit runner tcs idx now acc limits = execLoop limit runner tcs idx now acc limits := by
  induction tcs with
  | nil => intros; rfl
  | cons tc rest ih =>
    intro idx now acc limits
    have hw : tc.wait = 0 := h tc (List.mem_cons_self ..)
    have ih' := ih (fun t ht => h t (List.mem_cons_of_mem _ ht))
    have hs : startOf limit tc now = now := by
      cases limit <;> simp [startOf, cappedWait, hw]
    simp only [execLoopOld, execLoop, hs, hw, Nat.add_zero, ih']
    cases ((runner idx (effective tc.timeout (Option.map (fun x => x - now) limit)).snd).fst).status <;> rfl

/-- the loop with the wait sat out in full (as it was before the cap), for comparison only -/
def execLoopUncapped (limit : Option Nat) (runner : Runner) :
    (tcs : List TC) → (idx now : Nat) → (acc : List Out) → (limits : List (Option Nat)) →
    ExecResult × List (Option Nat)
  | [], _, _, acc, limits => (.ok acc, limits)
  | tc :: rest, idx, now, acc, limits =>
    let now := now + tc.wait
    let remaining := limit.map (· - now)
    let (isGlobal, lim) := effective tc.timeout remaining
    let (o, elapsed) := runner idx lim
    let limits := limits ++ [lim]
    match o.status with
    | .code c =>
      if c = skipCodeOf tc then (.skipped idx, limits)
      else execLoopUncapped limit runner rest (idx + 1) (now + elapsed) (acc ++ [o]) limits
    | .timeout => (.timeout isGlobal idx (acc ++ [o]), limits)
    | .skipped => (.skipped idx, limits)
    | .detached =>
      execLoopUncapped limit runner rest (idx + 1) (now + elapsed) (acc ++ [detachedOut]) limits
    | .unknown => (.ok (acc ++ [o] ++ rest.map unknownOut), limits)

/-- the two loops agree as long as their clocks leave the same of the document limit: the loop
    looks at its clock only through what is left, and both a capped and a full wait leave the same
    (nothing, where the cap bites) -/
theorem execLoop_eq_uncapped (limit : Option Nat) (runner : Runner) (tcs : List TC) :
    ∀ (idx a b : Nat) (acc : List Out) (limits : List (Option Nat)),
      (∀ L, limit = some L → L - a = L - b) →
      execLoop limit runner tcs idx a acc limits =
        execLoopUncapped limit runner tcs idx b acc limits := by
  induction tcs with
  | nil => intros; rfl
  | cons tc rest ih =>
    intro idx a b acc limits hab
    have hkey : ∀ L, limit = some L → L - startOf limit tc a = L - (b + tc.wait) := by
      rintro L rfl
      rw [sub_startOf_some, Nat.sub_add_eq, hab L rfl, ← Nat.sub_add_eq]
    have hl : limit.map (· - startOf limit tc a) = limit.map (· - (b + tc.wait)) := by
      cases limit with
      | none => rfl
      | some L => exact congrArg some (hkey L rfl)
    have hnext : ∀ e L, limit = some L → L - (startOf limit tc a + e) = L - (b + tc.wait + e) := by
      intro e L hL
      rw [Nat.sub_add_eq, hkey L hL, ← Nat.sub_add_eq]
    simp only [execLoop, execLoopUncapped, hl]
    cases ((runner idx (effective tc.timeout (Option.map (fun x => x - (b + tc.wait)) limit)).snd).fst).status with
    | code c =>
      simp only
      split
      · rfl
      · exact ih _ _ _ _ _ (hnext _)
    | detached => exact ih _ _ _ _ _ (hnext _)
    | _ => rfl

end Scrut.Exec
