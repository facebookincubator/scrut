import ScrutModel.Lemmas.RenderChars
/-! The scalar pieces written by `to_yaml_one_liner` (integers, durations, plain names) are tokens,
and serde_yaml's scalar resolution takes each for what it is. -/
namespace Scrut.Yaml
open Scrut.Dur

def digitList : List Char := ['0', '1', '2', '3', '4', '5', '6', '7', '8', '9']

theorem digitList_facts : ∀ c ∈ digitList,
    isDigit c = true ∧ tokChar c = true ∧ isBlank c = false ∧ isIndicator c = false ∧ c ≠ '-' ∧ c ≠ '+' := by
  decide +kernel

theorem natDigits_mem (n : Nat) : ∀ c ∈ natDigits n, c ∈ digitList :=
  natDigits_forall (· ∈ digitList) (by decide +kernel) n

theorem natDigits_cons (n : Nat) : ∃ c r, natDigits n = c :: r ∧ c ∈ digitList := by
  cases h : natDigits n with
  | nil => exact absurd h (natDigits_ne n)
  | cons c r => exact ⟨c, r, rfl, natDigits_mem n c (by rw [h]; exact List.mem_cons_self)⟩

theorem startOk_digit {c : Char} (r : List Char) (hc : c ∈ digitList) : startOk (c :: r) = true := by
  obtain ⟨_, _, h2, h3, h1, _⟩ := digitList_facts c hc
  simp [startOk, h1, h2, h3]

theorem lastOk_append (a b : List Char) (hb : b ≠ []) : lastOk (a ++ b) = lastOk b := by
  unfold lastOk
  rw [List.reverse_append]
  cases h : b.reverse with
  | nil => simp at h; exact absurd h hb
  | cons l r => simp

theorem lastOk_of_all (p : List Char) (hne : p ≠ []) (h : ∀ c ∈ p, isBlank c = false) : lastOk p = true := by
  unfold lastOk
  cases hr : p.reverse with
  | nil => simp at hr; exact absurd hr hne
  | cons l r =>
    have : l ∈ p := by
      have : l ∈ p.reverse := by rw [hr]; simp
      simpa using this
    simp [h l this]

theorem natDigits_tok (n : Nat) :
    (natDigits n).all tokChar = true ∧ startOk (natDigits n) = true ∧ lastOk (natDigits n) = true := by
  obtain ⟨c, r, hcr, hc⟩ := natDigits_cons n
  refine ⟨List.all_eq_true.mpr fun x hx => (digitList_facts x (natDigits_mem n x hx)).2.1, ?_,
    lastOk_of_all _ (natDigits_ne n) fun x hx => (digitList_facts x (natDigits_mem n x hx)).2.2.1⟩
  rw [hcr]
  exact startOk_digit r hc

theorem digitsVal_natDigits (n : Nat) : digitsVal (natDigits n) = n := by
  induction n using Nat.strongRecOn with
  | _ n ih =>
    have hv := (digit_facts (n % 10) (Nat.mod_lt _ (by decide))).2
    rw [natDigits_eq, digitsVal, List.foldl_append, List.foldl_cons, List.foldl_nil, hv]
    split
    · rw [List.foldl_nil]; omega
    · have := ih (n / 10) (by omega)
      rw [digitsVal] at this
      rw [this]; omega

theorem allDigits_natDigits (n : Nat) : allDigits (natDigits n) = true := by
  obtain ⟨c, r, hcr, _⟩ := natDigits_cons n
  have : (natDigits n).all isDigit = true :=
    List.all_eq_true.mpr fun x hx => (digitList_facts x (natDigits_mem n x hx)).1
  rw [allDigits, this, hcr]
  rfl

theorem natDigits_pos_head (n : Nat) (h : 0 < n) :
    ∃ k r, natDigits n = Char.ofNat (48 + k) :: r ∧ 0 < k ∧ k < 10 := by
  induction n using Nat.strongRecOn with
  | _ n ih =>
    rw [natDigits_eq]
    split
    · exact ⟨n % 10, [], rfl, by omega, Nat.mod_lt _ (by decide)⟩
    · obtain ⟨k, r, e, hk⟩ := ih (n / 10) (by omega) (by omega)
      exact ⟨k, r ++ [Char.ofNat (48 + n % 10)], by rw [e]; rfl, hk⟩

theorem leadingZeroNumber_natDigits (m : Nat) : leadingZeroNumber (natDigits m) = false := by
  by_cases hm : m = 0
  · subst hm; rfl
  · obtain ⟨k, r, e, h0, h10⟩ := natDigits_pos_head m (by omega)
    have : ∀ k, k < 10 → 0 < k → Char.ofNat (48 + k) ≠ '0' := by decide +kernel
    rw [e, leadingZeroNumber]
    intro _ heq
    exact absurd (List.cons.inj heq).1 (this k h10 h0)

theorem stripSign_other (c : Char) (r : List Char) (h1 : c ≠ '-') (h2 : c ≠ '+') : stripSign (c :: r) = c :: r := by
  unfold stripSign
  split
  · rename_i heq; simp only [List.cons.injEq] at heq; exact absurd heq.1 h1
  · rename_i heq; simp only [List.cons.injEq] at heq; exact absurd heq.1 h2
  · rfl

theorem intOfText_unsigned (c : Char) (r : List Char) (h1 : c ≠ '-') (h2 : c ≠ '+') :
    intOfText (c :: r) = if leadingZeroNumber (c :: r) then none else
      if allDigits (c :: r) then some (Int.ofNat (digitsVal (c :: r))) else none := by
  unfold intOfText
  rw [digitsButNotNumber, stripSign_other c r h1 h2]
  split
  · rfl
  · split
    · rename_i heq; exact absurd (List.cons.inj heq).1 h1
    · rename_i heq; exact absurd (List.cons.inj heq).1 h2
    · rfl

theorem intOfText_natDigits (n : Nat) : intOfText (natDigits n) = some (Int.ofNat n) := by
  obtain ⟨c, r, hcr, hc⟩ := natDigits_cons n
  obtain ⟨_, _, _, _, hm, hp⟩ := digitList_facts c hc
  have h := intOfText_unsigned c r hm hp
  rw [← hcr, leadingZeroNumber_natDigits, allDigits_natDigits, digitsVal_natDigits] at h
  exact h

theorem intOfText_intDigits (i : Int) : intOfText (intDigits i) = some i := by
  cases i with
  | ofNat n => exact intOfText_natDigits n
  | negSucc n =>
    have hall := allDigits_natDigits (n + 1)
    have hval := digitsVal_natDigits (n + 1)
    have hd : digitsButNotNumber ('-' :: natDigits (n + 1)) = false := leadingZeroNumber_natDigits (n + 1)
    simp only [intDigits, intOfText, hd, Bool.false_eq_true, if_false, hall, if_true, hval]
    rfl

theorem intDigits_tok (i : Int) : Tok (intDigits i) = true := by
  cases i with
  | ofNat n =>
    obtain ⟨h1, h2, h3⟩ := natDigits_tok n
    simp only [intDigits, Tok, h1, h2, h3, Bool.and_self]
  | negSucc n =>
    obtain ⟨h1, _, h3⟩ := natDigits_tok (n + 1)
    obtain ⟨c, r, hcr, hc⟩ := natDigits_cons (n + 1)
    have hm : tokChar '-' = true := by decide +kernel
    have hs : startOk ('-' :: natDigits (n + 1)) = true := by
      rw [hcr]; simp [startOk, (digitList_facts c hc).2.2.1]
    have hl := lastOk_append ['-'] (natDigits (n + 1)) (natDigits_ne _)
    rw [List.singleton_append] at hl
    simp only [intDigits, Tok, List.all_cons, hm, h1, hs, hl, h3, Bool.and_self]

/-- the invariant of a `Duration`, as a proposition (`wfd` is the Boolean form) -/
def WFd (d : Nat × Nat) : Prop := d.1 ≤ U64MAX ∧ d.2 < NS

theorem durText_parse (d : Nat × Nat) (h : WFd d) : parseDuration (durText d) = .ok ⟨d.1, d.2⟩ :=
  duration_roundtrip d.1 d.2 h.2 h.1

/- A text that `parse_duration` accepts differs from every text it rejects: this is how a formatted duration
is told from the empty text, from `null`, `~`, `true`, … without looking at its characters. -/
theorem ne_of_parseDuration {t : List Char} {o : Out} (h : parseDuration t = .ok o) (x : List Char)
    (hx : parseDuration x = .error .err) : t ≠ x := by
  intro e; rw [e, hx] at h; cases h

theorem durText_ne (d : Nat × Nat) (h : WFd d) : durText d ≠ [] ∧ durText d ≠ ['n', 'u', 'l', 'l'] :=
  ⟨ne_of_parseDuration (durText_parse d h) _ rfl, ne_of_parseDuration (durText_parse d h) _ rfl⟩

def unitHeads : List Char := ['y', 'm', 'd', 'h', 's', 'u', 'n']

theorem text_tok (u : FU) (v : Nat) :
    (∀ c ∈ u.text v, tokChar c = true ∧ isBlank c = false) ∧ ∃ L t, u.text v = L :: t ∧ L ∈ unitHeads :=
  text_ind (P := fun _ t => (∀ c ∈ t, tokChar c = true ∧ isBlank c = false) ∧ ∃ L r, t = L :: r ∧ L ∈ unitHeads)
    (by intro u; cases u <;>
      exact ⟨⟨by decide +kernel, _, _, rfl, by decide +kernel⟩, ⟨by decide +kernel, _, _, rfl, by decide +kernel⟩⟩)
    u v

theorem renderItems_tok : ∀ (l : List (Nat × FU)) (st : Bool),
    (renderItems st l).all tokChar = true ∧ (renderItems st l ≠ [] → lastOk (renderItems st l) = true) := by
  intro l
  induction l with
  | nil => intro st; exact ⟨rfl, fun h => absurd rfl h⟩
  | cons it r ih =>
    intro st
    obtain ⟨v, u⟩ := it
    simp only [renderItems]
    split
    · exact ih st
    · obtain ⟨ht, L, t, hLt, _⟩ := text_tok u v
      have hne : u.text v ≠ [] := by rw [hLt]; exact List.cons_ne_nil _ _
      have hsp : tokChar ' ' = true := by decide +kernel
      refine ⟨?_, fun _ => ?_⟩
      · simp only [List.all_append, (natDigits_tok v).1, (ih true).1, Bool.and_true, Bool.true_and,
          Bool.and_eq_true]
        exact ⟨by cases st <;> simp [hsp], List.all_eq_true.mpr fun c hc => (ht c hc).1⟩
      · rw [lastOk_append _ _ (by simp [natDigits_ne]), lastOk_append _ _ (by simp [hne])]
        by_cases hr : renderItems true r = []
        · rw [hr, List.append_nil]; exact lastOk_of_all _ hne fun c hc => (ht c hc).2
        · rw [lastOk_append _ _ hr]; exact (ih true).2 hr

/-- digits, then the first letter of a unit, then anything -/
def DurShape (t : List Char) : Prop :=
  ∃ ds L rest, t = ds ++ L :: rest ∧ ds ≠ [] ∧ (∀ c ∈ ds, c ∈ digitList) ∧ L ∈ unitHeads

theorem durText_shape (d : Nat × Nat) (h : WFd d) : DurShape (durText d) := by
  have hne := (durText_ne d h).1
  unfold durText formatDuration at hne ⊢
  split
  · exact ⟨['0'], 's', [], rfl, by simp, by decide +kernel, by decide +kernel⟩
  · rename_i h0
    simp only [h0, if_false] at hne
    rcases renderItems_first (items d.1 d.2) with ⟨e, _⟩ | ⟨v, u, r, _, e, _⟩
    · exact absurd e hne
    · obtain ⟨_, L, t, ht, hL⟩ := text_tok u v
      exact ⟨natDigits v, L, t ++ renderItems true r, by rw [e, ht]; rfl, natDigits_ne v, natDigits_mem v, hL⟩

theorem durText_tok (d : Nat × Nat) (h : WFd d) : Tok (durText d) = true := by
  obtain ⟨ds, L, rest, e, hne, hds, _⟩ := durText_shape d h
  have hstart : startOk (durText d) = true := by
    cases ds with
    | nil => exact absurd rfl hne
    | cons c ds => rw [e]; exact startOk_digit _ (hds c List.mem_cons_self)
  have hne := (durText_ne d h).1
  unfold durText formatDuration at hne ⊢ hstart
  split
  · rfl
  · rename_i h0
    simp only [h0, if_false] at hne hstart
    obtain ⟨h1, h2⟩ := renderItems_tok (items d.1 d.2) false
    simp only [Tok, h1, hstart, h2 hne, Bool.and_self]

theorem takeDigits_shape : ∀ (ds : List Char) (L : Char) (rest : List Char),
    (∀ c ∈ ds, isDigit c = true) → isDigit L = false → takeDigits (ds ++ L :: rest) = (ds, L :: rest) := by
  intro ds
  induction ds with
  | nil => intro L rest _ hL; simp [takeDigits, hL]
  | cons c ds ih =>
    intro L rest h hL
    have hc := h c (by simp)
    simp [takeDigits, hc, ih L rest (fun x hx => h x (by simp [hx])) hL]

theorem shape_not_number (t : List Char) (h : DurShape t) : intOfText t = none ∧ floatLike t = false := by
  obtain ⟨ds, L, rest, rfl, hne, hds, hL⟩ := h
  have : ∀ L ∈ unitHeads, isDigit L = false ∧ L ≠ '.' ∧ L ≠ 'e' ∧ L ≠ 'E' := by decide +kernel
  obtain ⟨hLd, hLdot, hLe, hLE⟩ := this L hL
  cases ds with
  | nil => exact absurd rfl hne
  | cons c ds =>
    obtain ⟨hcd, _, _, _, hm, hp⟩ := digitList_facts c (hds c (by simp))
    have hdig : ∀ x ∈ c :: ds, isDigit x = true := fun x hx => (digitList_facts x (hds x hx)).1
    have hstrip : stripSign (c :: ds ++ L :: rest) = c :: ds ++ L :: rest := stripSign_other c _ hm hp
    have hnd : allDigits (c :: ds ++ L :: rest) = false := by
      simp only [allDigits, Bool.and_eq_false_iff]
      right
      rw [List.all_eq_false]
      exact ⟨L, by simp, by simp [hLd]⟩
    have hcdot : c ≠ '.' := by
      intro h; subst h; simp [isDigit] at hcd
    constructor
    · rw [List.cons_append, intOfText_unsigned c _ hm hp, ← List.cons_append, hnd]
      split <;> rfl
    · unfold floatLike
      simp only [hstrip]
      have htd := takeDigits_shape (c :: ds) L rest hdig hLd
      simp only [List.cons_append] at htd ⊢
      simp [htd, hcdot, hLdot, hLe, hLE]

theorem durText_isString (d : Nat × Nat) (h : WFd d) : plainIsString (durText d) = true := by
  have ne := ne_of_parseDuration (durText_parse d h)
  have h1 : isNullText (durText d) = false := by
    simp [isNullText, ne [] rfl, ne ['~'] rfl, ne ['n', 'u', 'l', 'l'] rfl, ne ['N', 'u', 'l', 'l'] rfl,
      ne ['N', 'U', 'L', 'L'] rfl]
  have h2 : boolOfText (durText d) = none := by
    simp [boolOfText, ne ['t', 'r', 'u', 'e'] rfl, ne ['T', 'r', 'u', 'e'] rfl, ne ['T', 'R', 'U', 'E'] rfl,
      ne ['f', 'a', 'l', 's', 'e'] rfl, ne ['F', 'a', 'l', 's', 'e'] rfl, ne ['F', 'A', 'L', 'S', 'E'] rfl]
  have ⟨h3, h4⟩ := shape_not_number _ (durText_shape d h)
  simp [plainIsString, h1, h2, h3, h4]

theorem char_le_iff (a b : Char) : a ≤ b ↔ a.toNat ≤ b.toNat := by
  simp only [Char.le_def, Char.toNat, UInt32.le_iff_toNat_le]

theorem char_eq_iff (a b : Char) : a = b ↔ a.toNat = b.toNat :=
  ⟨fun h => h ▸ rfl, fun h => by rw [← Char.ofNat_toNat a, h, Char.ofNat_toNat]⟩

/- Both facts are arithmetic on code points: comparisons and equalities with literals become
statements about `c.toNat`. -/
theorem nameChar_tok (c : Char) (h : isNameChar c = true) : tokChar c = true ∧ isBlank c = false := by
  simp only [isNameChar, isAsciiAlnum, isAsciiAlpha, tokChar, isFlowInd, isBreak, readable, isBlank,
    Bool.or_eq_true, Bool.and_eq_true, decide_eq_true_eq, beq_iff_eq, char_le_iff, char_eq_iff,
    Bool.not_eq_true', Bool.or_eq_false_iff, decide_eq_false_iff_not, Char.reduceToNat] at h ⊢
  -- of the characters the goal excludes only `:`, `[` and `]` lie between `-` and `z`
  have hr : 45 ≤ c.toNat ∧ c.toNat ≤ 122 ∧ c.toNat ≠ 58 ∧ c.toNat ≠ 91 ∧ c.toNat ≠ 93 := by omega
  clear h
  omega

theorem headChar_start (c : Char) (h : (isAsciiAlpha c || c == '_' || c == '/') = true) :
    c ≠ '-' ∧ isBlank c = false ∧ isIndicator c = false := by
  simp only [isAsciiAlpha, isIndicator, isBlank, ne_eq, Bool.or_eq_true, Bool.and_eq_true, decide_eq_true_eq,
    beq_iff_eq, char_le_iff, char_eq_iff, Bool.or_eq_false_iff, decide_eq_false_iff_not, Char.reduceToNat] at h ⊢
  omega

theorem plainSafe_facts (p : List Char) (h : isPlainSafe p = true) : Tok p = true ∧ isNullText p = false := by
  constructor
  · simp only [isPlainSafe, Bool.and_eq_true] at h
    obtain ⟨⟨hhead, hall⟩, _⟩ := h
    rw [List.all_eq_true] at hall
    cases p with
    | nil => simp at hhead
    | cons c r =>
      obtain ⟨h1, h2, h3⟩ := headChar_start c hhead
      simp only [Tok, Bool.and_eq_true, List.all_eq_true]
      refine ⟨⟨fun x hx => (nameChar_tok x (hall x hx)).1, ?_⟩,
        lastOk_of_all _ (by simp) (fun x hx => (nameChar_tok x (hall x hx)).2)⟩
      simp [startOk, h1, h2, h3]
  · cases hn : isNullText p with
    | false => rfl
    | true =>
      simp only [isNullText, Bool.or_eq_true, decide_eq_true_eq] at hn
      rcases hn with (((hn | hn) | hn) | hn) | hn <;> subst hn <;> cases h

theorem plainOrQuoted_good (p : List Char) : GoodS (plainOrQuoted p) = true := by
  unfold plainOrQuoted
  split
  · rename_i h; exact (plainSafe_facts p h).1
  · rfl

theorem plainOrQuoted_text (p : List Char) : (plainOrQuoted p).text = p := by
  unfold plainOrQuoted
  split <;> rfl

end Scrut.Yaml
