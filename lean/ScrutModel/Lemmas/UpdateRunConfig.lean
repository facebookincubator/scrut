import ScrutModel.Lemmas.UpdateRunProps
import ScrutModel.Lemmas.FlowBlank
/-!
# The configuration of a rewritten block is read back as the original one

`update` writes the inline configuration without its leading spaces and tabs (`trim_start_matches([' ', '\t'])`,
fix 15b47d2), which is exactly what the YAML flow parser skips behind `{`; `trim_start()`, used before, also
dropped Unicode `White_Space` that YAML reads as part of the first key.  A text of white space only is written
back as NO configuration: if the original one is read at all it is the empty mapping, the same configuration.
-/
namespace Scrut.UpdateRun
open Scrut Scrut.TestRun Scrut.Markdown Scrut.Update Scrut.LineParser Scrut.GenLemmas Scrut.EscLemmas

theorem blankStart_eq_skipWs : ∀ (t : List Char), blankStart t = Yaml.skipWs t
  | [] => rfl
  | c :: r => by
    simp only [blankStart, Yaml.skipWs, Yaml.isBlank, Bool.or_eq_true, decide_eq_true_eq, blankStart_eq_skipWs r]

theorem testBlocks_cfg_mem : ∀ (toks : List Tok) (b : Numbered × List Markdown.Line), b ∈ testBlocks toks →
    b.1 ∈ cfgsOf toks
  | [], b, h => by simp [testBlocks] at h
  | .line _ _ :: r, b, h => testBlocks_cfg_mem r b (by simpa [testBlocks] using h)
  | .docConfig _ :: r, b, h => testBlocks_cfg_mem r b (by simpa [testBlocks] using h)
  | .verbatim _ _ _ :: r, b, h => testBlocks_cfg_mem r b (by simpa [testBlocks] using h)
  | .test _ cfg _ code :: r, b, h => by
    simp only [testBlocks] at h
    simp only [cfgsOf, List.mem_cons]
    split at h
    · exact Or.inr (testBlocks_cfg_mem r b h)
    · rcases List.mem_cons.mp h with rfl | h
      · exact Or.inl rfl
      · exact Or.inr (testBlocks_cfg_mem r b h)

theorem dropWhile_nil_all {p : Char → Bool} : ∀ (l : List Char), l.dropWhile p = [] → ∀ x ∈ l, p x = true
  | [], _, x, hx => by simp at hx
  | a :: l, h, x, hx => by
    by_cases ha : p a = true
    · simp only [List.dropWhile, ha] at h
      rcases List.mem_cons.mp hx with rfl | hx
      · exact ha
      · exact dropWhile_nil_all l h x hx
    · have ha' : p a = false := by simpa using ha
      simp [List.dropWhile, ha'] at h

theorem all_white_of_trim {t : Markdown.Line} (h : (trim t).isEmpty = true) : ∀ x ∈ t, isWhite x = true := by
  apply dropWhile_nil_all
  cases hts : t.dropWhile isWhite with
  | nil => rfl
  | cons c r =>
    exfalso
    have hc : isWhite c = false := by simpa [hts] using List.head?_dropWhile_not isWhite t
    have h' : trim t = [] := by simpa using h
    unfold trim trimEnd trimStart at h'
    rw [hts] at h'
    have h2 : ((c :: r).reverse.dropWhile isWhite) = [] := by simpa using h'
    have := dropWhile_nil_all _ h2 c (by simp)
    rw [hc] at this
    cases this

theorem parseFlow_white (t : List Char) (hw : ∀ x ∈ t, isWhite x = true) (c : Yaml.Cfg)
    (h : Yaml.parseFlow ('{' :: (t ++ ['}'])) = .ok c) : c = {} := by
  rw [← Yaml.parseFlow_skipWs] at h
  cases hs : Yaml.skipWs t with
  | nil =>
    rw [hs, List.nil_append, show Yaml.parseFlow ['{', '}'] = .ok {} by decide +kernel] at h
    cases h
    rfl
  | cons d r =>
    exfalso
    rw [hs] at h
    have hmem : ∀ x ∈ d :: r, isWhite x = true := fun x hx => hw x ((Yaml.skipWs_suffix t).subset (by rw [hs]; exact hx))
    have ha : Yaml.parseAst ('{' :: d :: (r ++ ['}'])) = none :=
      Yaml.parseAst_no_key d _ (Yaml.skipWs_head_nonblank t d r hs)
        (fun e => absurd (e ▸ hmem d (by simp)) (by decide))
        (fun hc => by
          rw [← List.cons_append, List.mem_append] at hc
          rcases hc with hc | hc
          · exact absurd (hmem ':' hc) (by decide)
          · simp at hc)
    unfold Yaml.parseFlow at h
    simp only [List.cons_append, ha] at h
    split at h
    · cases h
    · split at h <;> cases h

theorem written_cases {cfg cfg' : Numbered} (hw : cfg'.map (·.2) = writtenCfg cfg) :
    ((trim (joinNumbered cfg)).isEmpty = true ∧ cfg' = []) ∨
    ((trim (joinNumbered cfg)).isEmpty = false ∧ cfg.isEmpty = false ∧ cfg'.isEmpty = false ∧
      joinNumbered cfg' = blankStart (joinNumbered cfg)) := by
  unfold writtenCfg at hw
  by_cases he : (trim (joinNumbered cfg)).isEmpty = true
  · simp only [he, if_true, List.map_eq_nil_iff] at hw
    exact Or.inl ⟨he, hw⟩
  · have he' : (trim (joinNumbered cfg)).isEmpty = false := by simpa using he
    simp only [he', Bool.false_eq_true, if_false] at hw
    have hc : cfg.isEmpty = false := by
      cases cfg with
      | nil => exact absurd rfl he
      | cons a r => rfl
    match cfg', hw with
    | [a], hw => exact Or.inr ⟨he', hc, rfl, by simpa [joinNumbered, LineParser.joinNl] using hw⟩
    | [], hw => simp at hw
    | _ :: _ :: _, hw => simp at hw

theorem inlineCfg_written_nonwhite {cfg cfg' : Numbered} (hw : cfg'.map (·.2) = writtenCfg cfg)
    (he : (trim (joinNumbered cfg)).isEmpty = false) :
    inlineCfg (some (cfgOf cfg')) = inlineCfg (some (cfgOf cfg)) := by
  rcases written_cases hw with ⟨he', _⟩ | ⟨_, hc, hc', hj⟩
  · rw [he] at he'; cases he'
  · simp only [cfgOf, hc, hc', Bool.false_eq_true, if_false, inlineCfg, hj]
    rw [blankStart_eq_skipWs, Yaml.parseFlow_skipWs]

/-- … and for every text, provided the original configuration is read (no YAML error, inside the modelled
fragment).  Needed for a text of Unicode white space only, which is written back as no configuration:
`{<U+00A0>}` is a YAML error, no configuration is the empty one (`inlineCfg_white_unread`). -/
theorem inlineCfg_written {cfg cfg' : Numbered} (hw : cfg'.map (·.2) = writtenCfg cfg)
    (hr : (inlineCfg (some (cfgOf cfg))).isSome = true) :
    inlineCfg (some (cfgOf cfg')) = inlineCfg (some (cfgOf cfg)) := by
  by_cases he : (trim (joinNumbered cfg)).isEmpty = true
  · rcases written_cases hw with ⟨_, rfl⟩ | ⟨he', _⟩
    · by_cases hc : cfg.isEmpty = true
      · simp [cfgOf, hc]
      · simp only [cfgOf, hc, Bool.false_eq_true, if_false, inlineCfg] at hr ⊢
        cases hp : Yaml.parseFlow ('{' :: (joinNumbered cfg ++ ['}'])) with
        | ok c => rw [parseFlow_white _ (all_white_of_trim he) c hp]; rfl
        | error => simp [hp] at hr
        | crash => simp [hp] at hr
        | outside => simp [hp] at hr
    · rw [he] at he'; cases he'
  · exact inlineCfg_written_nonwhite hw (by simpa using he)

/-- the hypothesis of `inlineCfg_written` cannot be dropped: the configuration text `<U+00A0>` is a YAML error,
and it is written back as no configuration, which is read -/
theorem inlineCfg_white_unread :
    writtenCfg [(0, ['\u00a0'])] = [] ∧ inlineCfg (some (cfgOf [(0, ['\u00a0'])])) = none ∧
      inlineCfg (some (cfgOf [])) = some {} := by decide +kernel

theorem testCfgOk_written {cfg cfg' : Numbered} (hw : cfg'.map (·.2) = writtenCfg cfg)
    (h : cfg.isEmpty = true ∨ testCfgOk (joinNumbered cfg) = true) :
    cfg'.isEmpty = true ∨ testCfgOk (joinNumbered cfg') = true := by
  rcases written_cases hw with ⟨_, rfl⟩ | ⟨_, hc, _, hj⟩
  · exact Or.inl rfl
  · right
    rw [hc] at h
    rw [hj]
    unfold testCfgOk
    rw [blankStart_eq_skipWs, Yaml.parseFlow_skipWs]
    exact h.resolve_left (by simp)

theorem prepareU_cfg_read {t : TestCase Markdown.Cfg} {u : UTest} (hu : prepareU t = .ok u) :
    (inlineCfg t.config).isSome = true := by
  obtain ⟨c, _, hi, _⟩ := prepareU_ok_iff.mp hu
  rw [hi]; rfl

theorem prepareU_ok_of {t t' : TestCase Markdown.Cfg} {u : UTest} (hu : prepareU t = .ok u)
    (hcfg : inlineCfg t'.config = inlineCfg t.config) (hsome : t'.config.isSome = t.config.isSome)
    {exps : List CExp} (hexp : Pairs (fun o e => compile o = .ok e) t'.expectations exps) :
    prepareU t' = .ok ⟨⟨u.test.cfg, exps, t'.exitCode.map Int.ofNat⟩, t'.shellExpression, t'.expectations⟩ := by
  obtain ⟨c, _, hi, hs, _, rfl⟩ := prepareU_ok_iff.mp hu
  exact prepareU_ok_iff.mpr ⟨c, exps, by rw [hcfg, hi], by rw [hsome]; exact hs, hexp, by rw [hsome]⟩

end Scrut.UpdateRun
