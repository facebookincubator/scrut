import ScrutModel.Lemmas.DiffWF

namespace Scrut.Diff

/-- expectation index of every line covered by a matched entry, in order -/
def assignOf : List DL → List Nat
  | [] => []
  | .matched i ls :: d => ls.map (fun _ => i) ++ assignOf d
  | _ :: d => assignOf d

def allMatched (d : List DL) : Prop := ∀ x ∈ d, ∃ i ls, x = .matched i ls

theorem hasDiff_false_iff (d : List DL) : hasDiff d = false ↔ allMatched d := by
  unfold hasDiff allMatched
  constructor
  · intro h x hx
    have := (List.any_eq_false.1 h) x hx
    cases x with
    | matched i ls => exact ⟨i, ls, rfl⟩
    | unmatched i => simp at this
    | unexpected ls => simp at this
  · intro h
    apply List.any_eq_false.2
    intro x hx
    obtain ⟨i, ls, rfl⟩ := h x hx
    simp

@[simp] theorem assignOf_cons_m (i ls d) : assignOf (DL.matched i ls :: d) = List.replicate ls.length i ++ assignOf d := by
  simp [assignOf, List.map_const']
@[simp] theorem assignOf_cons_u (i d) : assignOf (DL.unmatched i :: d) = assignOf d := rfl
@[simp] theorem assignOf_cons_x (ls d) : assignOf (DL.unexpected ls :: d) = assignOf d := rfl
@[simp] theorem assignOf_nil : assignOf [] = [] := rfl

theorem allMatched_snoc {a : List DL} (ha : allMatched a) (i : Nat) (ls : List Nat) :
    allMatched (a ++ [.matched i ls]) := by
  intro x hx
  rcases List.mem_append.1 hx with h | h
  · exact ha x h
  · exact ⟨i, ls, List.mem_singleton.1 h⟩

variable (n m : Nat) (es : Nat → Exp) (mt : Nat → Nat → Bool)

/-- An assignment of the `m` lines to expectations: `a[j]` is the expectation line `j` goes to. -/
structure Assignment (a : List Nat) : Prop where
  total : a.length = m                                   -- every line is assigned: no gaps
  inOrder : a.Pairwise (· ≤ ·)                           -- in order
  inRange : ∀ i ∈ a, i < n
  isMatch : ∀ j (h : j < a.length), mt a[j] j = true     -- every line matches its expectation
  atLeast : ∀ i, i < n → (es i).optional = false → i ∈ a            -- no `?`/`*` ⇒ at least one line
  atMost : ∀ i, i < n → (es i).multiline = false → a.count i ≤ 1    -- no `*`/`+` ⇒ at most one line

theorem assignOf_length (d : List DL) (h : allMatched d) : (assignOf d).length = (linesOf d).length := by
  induction d with
  | nil => rfl
  | cons x d ih =>
    obtain ⟨⟨i, ls, rfl⟩, h'⟩ := List.forall_mem_cons.1 h
    simp [ih h']

theorem mem_assignOf (d : List DL) (i : Nat) : i ∈ assignOf d → i ∈ idxOf d := by
  induction d with
  | nil => exact id
  | cons x d ih =>
    rw [idxOf_cons, List.mem_append]
    cases x with
    | matched k ls =>
      rw [assignOf_cons_m, List.mem_append]
      exact Or.imp (fun h => List.mem_singleton.2 (List.mem_replicate.1 h).2) ih
    | unmatched k => exact fun h => .inr (ih h)
    | unexpected ls => exact fun h => .inr (ih h)

theorem assignOf_match (d : List DL) (hm : allMatched d) (hg : ∀ x ∈ d, DL.Good n m es mt x) :
    ∀ j (h1 : j < (assignOf d).length) (h2 : j < (linesOf d).length),
      mt (assignOf d)[j] (linesOf d)[j] = true := by
  induction d with
  | nil => intro j h1; cases h1
  | cons x d ih =>
    obtain ⟨⟨i, ls, rfl⟩, hm'⟩ := List.forall_mem_cons.1 hm
    obtain ⟨hgx, hg'⟩ := List.forall_mem_cons.1 hg
    intro j h1 h2
    simp only [assignOf_cons_m, linesOf_cons, DL.lines] at h1 h2 ⊢
    have hrep : (List.replicate ls.length i).length = ls.length := List.length_replicate
    rw [List.length_append, hrep] at h1
    rw [List.length_append] at h2
    by_cases hj : j < ls.length
    · rw [List.getElem_append_left (hrep.symm ▸ hj), List.getElem_append_left hj, List.getElem_replicate]
      exact (hgx.2.2.1 _ (List.getElem_mem hj)).2
    · have hle := Nat.le_of_not_lt hj
      rw [List.getElem_append_right (hrep.symm ▸ hle), List.getElem_append_right hle]
      simp only [hrep]
      exact ih hm' hg' (j - ls.length) (Nat.sub_lt_left_of_lt_add hle h1) (Nat.sub_lt_left_of_lt_add hle h2)

theorem assignOf_sorted (d : List DL) (hs : (idxOf d).Pairwise (· < ·)) : (assignOf d).Pairwise (· ≤ ·) := by
  induction d with
  | nil => exact .nil
  | cons x d ih =>
    rw [idxOf_cons, List.pairwise_append] at hs
    cases x with
    | matched k ls =>
      rw [assignOf_cons_m, List.pairwise_append]
      refine ⟨List.pairwise_replicate.2 (.inr (Nat.le_refl k)), ih hs.2.1, fun a ha b hb => ?_⟩
      rw [(List.mem_replicate.1 ha).2]
      exact Nat.le_of_lt (hs.2.2 k List.mem_cons_self b (mem_assignOf d b hb))
    | unmatched k => exact ih hs.2.1
    | unexpected ls => exact ih hs.2.1

theorem idx_mem_assignOf (d : List DL) (hm : allMatched d) (hg : ∀ x ∈ d, DL.Good n m es mt x) (i : Nat) :
    i ∈ idxOf d → i ∈ assignOf d := by
  induction d with
  | nil => exact id
  | cons x d ih =>
    obtain ⟨⟨k, ls, rfl⟩, hm'⟩ := List.forall_mem_cons.1 hm
    obtain ⟨hgx, hg'⟩ := List.forall_mem_cons.1 hg
    rw [idxOf_cons, assignOf_cons_m, List.mem_append, List.mem_append]
    -- a matched entry holds at least one line
    exact Or.imp (fun h => List.mem_replicate.2
      ⟨fun hc => hgx.2.1 (List.length_eq_zero_iff.1 hc), List.mem_singleton.1 h⟩) (ih hm' hg')

theorem assignOf_count (d : List DL) (hg : ∀ x ∈ d, DL.Good n m es mt x)
    (hs : (idxOf d).Pairwise (· < ·)) (i : Nat) (hi : (es i).multiline = false) :
    (assignOf d).count i ≤ 1 := by
  induction d with
  | nil => exact Nat.zero_le 1
  | cons x d ih =>
    obtain ⟨hgx, hg'⟩ := List.forall_mem_cons.1 hg
    rw [idxOf_cons, List.pairwise_append] at hs
    cases x with
    | unmatched k => exact ih hg' hs.2.1
    | unexpected ls => exact ih hg' hs.2.1
    | matched k ls =>
    rw [assignOf_cons_m, List.count_append, List.count_replicate]
    by_cases hik : k = i
    · -- `i` has its single line here and, the indices being increasing, none later
      subst hik
      have h0 : (assignOf d).count k = 0 := List.count_eq_zero.2 fun hmem =>
        Nat.lt_irrefl k (hs.2.2 k List.mem_cons_self k (mem_assignOf d k hmem))
      simp [hgx.2.2.2 hi, h0]
    · simp [hik]; exact ih hg' hs.2.1

variable {n m es mt} in
theorem WF.assignment {d : List DL} (wf : WF n m es mt d) (hm : allMatched d) :
    Assignment n m es mt (assignOf d) := by
  have hlen : (assignOf d).length = m := by
    rw [assignOf_length _ hm, wf.cover, rangeFrom_zero, List.length_range]
  refine ⟨hlen, assignOf_sorted _ wf.idx_sorted, fun i hi => wf.idx_lt i (mem_assignOf _ i hi), fun j hj => ?_,
    fun i hi ho => idx_mem_assignOf n m es mt _ hm wf.good i (wf.idx_all i hi ho),
    fun i _ hmul => assignOf_count n m es mt _ wf.good wf.idx_sorted i hmul⟩
  have hl : j < (linesOf d).length := by rw [← assignOf_length _ hm]; exact hj
  have := assignOf_match n m es mt _ hm wf.good j hj hl
  -- line `j` is the `j`-th line covered
  rwa [show (linesOf d)[j] = j by simp only [wf.cover, rangeFrom_zero, List.getElem_range]] at this

theorem C01_no_false_pass (h : hasDiff (diff n m es mt) = false) :
    ∃ a, Assignment n m es mt a :=
  ⟨_, (diff_wf n m es mt).assignment ((hasDiff_false_iff _).1 h)⟩

end Scrut.Diff
