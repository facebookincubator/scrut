import ScrutModel.Lemmas.UpdateRunReparse
/-!
# The two repairs of `generate_testcase` (fixes 961e96b, cfef990), at the level of the LINE PARSER

The lines written for a command are the pieces of its `split('\n')` (`$ ` first, `> ` the others), for EVERY
command, and the line parser reads the command back from them; behind them `[code]` goes first if the first
expectation text starts with `> `, so that no expectation is taken for a continuation of the command.
-/
namespace Scrut.UpdateRun
open Scrut Scrut.TestRun Scrut.Markdown Scrut.Update Scrut.LineParser Scrut.GenLemmas Scrut.EscLemmas

/-- the lines `generate_testcase_expression` writes: `$ ` + the first piece of `split('\n')`, `> ` + every
further piece -/
def exprLines (cmd : List Char) : List Markdown.Line :=
  match Gen.splitNl cmd [] with
  | c0 :: more => ('$' :: ' ' :: c0) :: more.map contLine
  | [] => []

theorem exprLines_of_split {cmd c0 : List Char} {more : List (List Char)} (h : Gen.splitNl cmd [] = c0 :: more) :
    exprLines cmd = ('$' :: ' ' :: c0) :: more.map contLine := by
  simp only [exprLines, h]

theorem expression_exprLines (cmd : List Char) : Gen.expression cmd = some (Update.unlines (exprLines cmd)) := by
  obtain ⟨c0, more, h, _, _⟩ := splitNl_cases cmd
  rw [exprLines_of_split h]
  exact expression_split cmd c0 more h

theorem exprLines_no_nl (cmd : List Char) : ∀ l ∈ exprLines cmd, '\n' ∉ l := by
  obtain ⟨c0, more, h, _, hnl⟩ := splitNl_cases cmd
  rw [exprLines_of_split h]
  intro l hl
  rcases List.mem_cons.mp hl with rfl | hl
  · simpa using hnl c0 (by simp)
  · obtain ⟨x, hx, rfl⟩ := List.mem_map.mp hl
    simpa [contLine] using hnl x (by simp [hx])

theorem command_lines (cmd : List Char) :
    (∃ c0 more, Gen.splitNl cmd [] = c0 :: more ∧
      Gen.expression cmd = some (Update.unlines (('$' :: ' ' :: c0) :: more.map (fun x => '>' :: ' ' :: x)))) ∧
    (∀ l ∈ Gen.splitNl cmd [], '\n' ∉ l) ∧ LineParser.joinNl (Gen.splitNl cmd []) = cmd ∧
    (∀ c0 more, (∀ l ∈ c0 :: more, '\n' ∉ l) → Gen.splitNl (Gen.joinNl (c0 :: more)) [] = c0 :: more) := by
  obtain ⟨c0, more, h, hj, hnl⟩ := splitNl_cases cmd
  exact ⟨⟨c0, more, h, expression_split cmd c0 more h⟩, h ▸ hnl, by rw [h, joinNl_eq, hj],
    fun c0 more h => splitNl_joinNl (c0 :: more) (by simp) h⟩

theorem expression_roundtrip (expOk : Markdown.Line → Bool) (s : LineParser.State Cfg) (hc : Markdown.Clean s)
    (cmd : List Char) (k : Nat) :
    ∃ s', addAll expOk s (number k (exprLines cmd)) = .ok s' ∧
      s'.command = Gen.splitNl cmd [] ∧ LineParser.joinNl s'.command = cmd ∧
      s'.expectations = [] ∧ s'.exitCode = none ∧ s'.inCommand = true ∧ s'.testcases = s.testcases := by
  obtain ⟨c0, more, h, hj, _⟩ := splitNl_cases cmd
  rw [exprLines_of_split h, number, h]
  exact ⟨_, (addAll_block_iff expOk k _ _ s _ hc).mpr ⟨c0, more, [], by simp [number_map_snd], trivial,
    by simp [expLines], by simp [exitCodes], rfl⟩, by simp [belowState], by simpa [belowState, joinNl_eq] using hj,
    by simp [belowState, expLines, hc.exps], by simp [belowState, exitCodes, hc.code], rfl, rfl⟩

theorem written_block_command (expOk : Markdown.Line → Bool) (s s' : LineParser.State Cfg) (hc : Markdown.Clean s)
    (cmd : List Char) (newOrigs : List (List Char)) (code : Int) (k : Nat)
    (h : addAll expOk s (number k (exprLines cmd ++ afterLines newOrigs code)) = .ok s') :
    s'.command = Gen.splitNl cmd [] ∧ LineParser.joinNl s'.command = cmd ∧
      s'.expectations = expLines (afterLines newOrigs code) ∧
      s'.exitCode = (exitCodes (afterLines newOrigs code)).head? := by
  obtain ⟨c0, more, hs, hj, _⟩ := splitNl_cases cmd
  rw [exprLines_of_split hs, List.cons_append, number] at h
  obtain ⟨c0', more', after', hcode, hn', _, _, rfl⟩ := (addAll_block_iff expOk k _ _ s s' hc).mp h
  rw [number_map_snd, List.cons.injEq] at hcode
  obtain rfl : c0 = c0' := by simpa using hcode.1
  obtain ⟨rfl, rfl⟩ := conts_unique more more' _ after' hcode.2 (afterLines_notCont newOrigs code) hn'
  exact ⟨by simp [belowState, hs], by simpa [belowState, joinNl_eq] using hj, by simp [belowState, hc.exps],
    by simp [belowState, hc.code]⟩

end Scrut.UpdateRun
