import ScrutModel.Model.UpdateRun
import ScrutModel.Lemmas.UpdateRetok
import ScrutModel.Lemmas.GenerateUpdate
import ScrutModel.Lemmas.TestRun
import ScrutModel.Lemmas.MarkdownAlign
import ScrutModel.Lemmas.UpdateRunFront
import ScrutModel.Lemmas.UpdateRunRejudge
/-!
# Theorems about the INTEGRATED model of `scrut update` (`Model/UpdateRun.lean`): the document

The piece theorems of C09 / C10 (about `Update.generateUpdate`, `Gen.generateTestcaseUpd`, the
matcher) lifted through the composition `updateDocument` / `updateDocumentBytes`.  What
`updateDocument … = .updated text results` says is unfolded once (`Updated`, `updated_spec`); every
document-level theorem starts from there.
-/
namespace Scrut.UpdateRun
open Scrut Scrut.TestRun Scrut.Markdown Scrut.Update

/-! ## every text of `generate_testcase` is a text `generate_update` reads back (`GenOK`)

Every piece `generate_testcase` writes -- command line, retained or generated expectation line, exit code line --
ends in a line feed, and `EndsNl` is closed under `++`; the first line `str::lines()` reads starts with `$ `. -/

theorem endsNl_nil : EndsNl [] := Or.inl rfl

theorem endsNl_append {a b : List Char} (ha : EndsNl a) (hb : EndsNl b) : EndsNl (a ++ b) := by
  rcases hb with rfl | hb
  · simpa using ha
  · right
    rw [List.getLast?_append, hb]; rfl

theorem assureNewlineC_last (t : List Char) : (Gen.assureNewlineC t).getLast? = some '\n' := by
  unfold Gen.assureNewlineC
  split
  · rename_i h; simpa using h
  · simp

theorem endsNl_assureNewlineC (t : List Char) : EndsNl (Gen.assureNewlineC t) :=
  Or.inr (assureNewlineC_last t)

theorem endsNl_flatMap {α : Type} (f : α → List Char) (l : List α) (h : ∀ x ∈ l, EndsNl (f x)) :
    EndsNl (l.flatMap f) := by
  induction l with
  | nil => exact endsNl_nil
  | cons x r ih =>
    rw [List.flatMap_cons]
    exact endsNl_append (h x (by simp)) (ih (fun y hy => h y (by simp [hy])))

theorem endsNl_exitCodeLine (c : Int) : EndsNl (Gen.exitCodeLine c) := by
  right
  rw [GenLemmas.exitCodeLine_eq, List.getLast?_append]; rfl

theorem endsNl_exitCodeOpt (c : Int) : EndsNl (Gen.exitCodeOpt c) := by
  unfold Gen.exitCodeOpt
  split
  · exact endsNl_exitCodeLine c
  · exact endsNl_nil

open Scrut.GenLemmas in
theorem endsNl_slotsText (m : Esc.Mode) (isOther : Char → Bool) (origs : List (List Char)) (lines : List (List UInt8)) :
    ∀ (sl : List Slot) (b : List Char), slotsText m isOther origs lines sl = some b → EndsNl b
  | [], b, h => by cases h; exact endsNl_nil
  | s :: r, b, h => by
    obtain ⟨a, t, h1, h2, rfl⟩ := slotsText_cons_some h
    refine endsNl_append ?_ (endsNl_slotsText m isOther origs lines r t h2)
    cases s with
    | kept ei =>
      obtain ⟨o, _, rfl⟩ := slotText_kept_some h1
      exact endsNl_assureNewlineC o
    | gen li =>
      obtain ⟨_, t, _, _, rfl⟩ := slotText_gen_some h1
      exact Or.inr (by simp)

open Scrut.GenLemmas in
theorem endsNl_expectationLines (m : Esc.Mode) (isOther : Char → Bool) (ls : List (List UInt8)) (e : List Char)
    (h : Gen.expectationLines m isOther ls = some e) : EndsNl e :=
  endsNl_slotsText m isOther [] ls ((Diff.rangeFrom 0 ls.length).map .gen) e (by rw [slotsText_gen, linesAt_all]; exact h)

open Scrut.GenLemmas in
theorem endsNl_diffBody (m : Esc.Mode) (isOther : Char → Bool) (origs : List (List Char)) (lines : List (List UInt8))
    (d : List Diff.DL) (b : List Char) (h : Gen.diffBody m isOther origs lines d = some b) : EndsNl b :=
  endsNl_slotsText m isOther origs lines (slots d) b (diffBody_eq_slots m isOther origs lines d ▸ h)

theorem expression_shape {cmd ex : List Char} (h : Gen.expression cmd = some ex) :
    ∃ rest, ex = '$' :: ' ' :: rest ∧ ex.getLast? = some '\n' := by
  unfold Gen.expression at h
  split at h
  · simp at h
  · rename_i l0 rest _
    cases h
    refine ⟨l0 ++ ['\n'] ++ rest.flatMap (fun l => ['>', ' '] ++ l ++ ['\n']), by simp, ?_⟩
    have h1 : EndsNl (rest.flatMap (fun l => ['>', ' '] ++ l ++ ['\n'])) :=
      endsNl_flatMap _ _ (fun x _ => Or.inr (by rw [List.getLast?_append]; rfl))
    rcases h1 with h1 | h1
    · rw [h1, List.append_nil, List.getLast?_append]; rfl
    · rw [List.getLast?_append, h1]; rfl

theorem endsNl_withExitCode (k : Bool) (body : List Char) (c : Int) (h : EndsNl body) :
    EndsNl (Gen.withExitCode k body c) := by
  unfold Gen.withExitCode
  split
  · exact endsNl_append (endsNl_exitCodeLine c) h
  · exact endsNl_append h (endsNl_exitCodeOpt c)

theorem reverse_of_getLast? {c : Char} {a : List Char} (h : a.getLast? = some c) : ∃ l, a.reverse = c :: l := by
  have : a.reverse.head? = some c := by rw [List.head?_reverse]; exact h
  cases hr : a.reverse with
  | nil => rw [hr] at this; cases this
  | cons y ys => rw [hr] at this; exact ⟨ys, by rw [Option.some.inj this]⟩

theorem splitLinesAux_head (c : Char) (hc : c ≠ '\r') :
    ∀ (text acc : List Char), acc.getLast? = some c →
      ∃ l, (splitLinesAux text acc).head? = some (c :: l)
  | [], acc, h => by
    have hne : acc ≠ [] := by intro h0; simp [h0] at h
    simp only [splitLinesAux, List.isEmpty_iff, hne, if_false, List.head?_cons]
    obtain ⟨l, hl⟩ := reverse_of_getLast? h
    exact ⟨l, by rw [hl]⟩
  | x :: rest, acc, h => by
    rw [splitLinesAux_cons]
    split
    · simp only [List.head?_cons]
      unfold lineOf
      split
      · rename_i a
        cases a with
        | nil => simp at h; exact absurd h.symm hc
        | cons y ys =>
          rw [List.getLast?_cons_cons] at h
          obtain ⟨l, hl⟩ := reverse_of_getLast? h
          exact ⟨l, by rw [hl]⟩
      · obtain ⟨l, hl⟩ := reverse_of_getLast? h
        exact ⟨l, by rw [hl]⟩
    · refine splitLinesAux_head c hc rest (x :: acc) ?_
      cases acc with
      | nil => simp at h
      | cons y ys => rw [List.getLast?_cons_cons]; exact h

theorem splitLines_head (c : Char) (hc : c ≠ '\r') (hn : c ≠ '\n') (rest : List Char) :
    ∃ l, (splitLines (c :: rest)).head? = some (c :: l) := by
  unfold splitLines
  rw [splitLinesAux_cons, if_neg hn]
  exact splitLinesAux_head c hc rest [c] rfl

theorem generateTestcaseUpd_genOK {m : Esc.Mode} {isOther : Char → Bool} {cmd : List Char}
    {origs : List (List Char)} {res : Gen.UpdResult} {lines : List (List UInt8)} {code : Int} {g : List Char}
    (h : Gen.generateTestcaseUpd m isOther cmd origs res lines code = some g) : GenOK g := by
  unfold Gen.generateTestcaseUpd at h
  cases hex : Gen.expression cmd with
  | none => simp [hex] at h
  | some ex =>
    simp only [hex] at h
    obtain ⟨rest, hrest, hlast⟩ := expression_shape hex
    have key : ∀ tail, EndsNl tail → GenOK (ex ++ tail) := by
      intro tail ht
      constructor
      · rcases ht with rfl | ht
        · simpa using hlast
        · rw [List.getLast?_append, ht]; rfl
      · rw [hrest]
        obtain ⟨l, hl⟩ := splitLines_head '$' (by decide) (by decide) (' ' :: rest ++ tail)
        show (splitLines ('$' :: (' ' :: rest ++ tail))).head?.map LineParser.isComment = some false
        rw [hl]; rfl
    cases res with
    | ok =>
      simp only at h
      cases h
      exact key _ (endsNl_withExitCode _ _ _ (endsNl_flatMap _ _ (fun x _ => endsNl_assureNewlineC x)))
    | malformed d =>
      simp only at h
      cases hb : Gen.diffBody m isOther origs lines d with
      | none => simp [hb] at h
      | some b =>
        simp only [hb, Option.map_some] at h
        cases h
        exact key _ (endsNl_withExitCode _ _ _ (endsNl_diffBody m isOther origs lines d b hb))
    | invalidExit actual =>
      simp only at h
      cases hb : Gen.expectationLines m isOther lines with
      | none => simp [hb] at h
      | some e =>
        simp only [hb, Option.map_some] at h
        cases h
        rw [List.append_assoc]
        exact key _ (endsNl_append (endsNl_expectationLines m isOther lines e hb) (endsNl_exitCodeOpt actual))

/-- the tests of the document as `updateDocument` prepares them (`none`: the command ends before
`updateTests`: parse error, front-matter / configuration outside the composition) -/
def docTests (content : List Char) : Option (List UTest) :=
  match Markdown.parseMarkdown parseEnv content with
  | .error _ => none
  | .ok p =>
    if !p.docConfigs.all frontMatterHarmless then none else
    match p.tests.mapM prepareU with
    | .error _ => none
    | .ok tests => some tests

/-- the outcomes `(result, generated text)` of the document's tests on the given runs -/
def docOutcomes (isOther : Char → Bool) (content : List Char) (runs : List Ran) :
    Option (List (Gen.UpdResult × Option (List Char))) :=
  match docTests content with
  | none => none
  | some tests =>
    match judgeAll isOther tests runs with
    | .error _ => none
    | .ok os => some os

/-- the texts handed to `generate_update`, one per test -/
def docGens (isOther : Char → Bool) (content : List Char) (runs : List Ran) :
    Option (List (Option (List Char))) :=
  (docOutcomes isOther content runs).map (fun os => os.map (·.2))

theorem updateDocument_cases (isOther : Char → Bool) (content : List Char) (runs : List Ran) :
    (∃ p tests, Markdown.parseMarkdown parseEnv content = .ok p ∧ p.docConfigs.all frontMatterHarmless = true ∧
      p.tests.mapM prepareU = .ok tests ∧ docTests content = some tests ∧
      updateDocument isOther content runs = updateTests isOther content tests runs) ∨
    (docTests content = none ∧ ∀ text results, updateDocument isOther content runs ≠ .updated text results) := by
  unfold docTests updateDocument
  cases hp : Markdown.parseMarkdown parseEnv content with
  | error e => exact .inr ⟨rfl, by cases e <;> simp⟩
  | ok p =>
    by_cases hf : (!p.docConfigs.all frontMatterHarmless) = true
    · exact .inr (by simp [hf])
    · cases hm : p.tests.mapM prepareU with
      | error e => exact .inr ⟨by simp [hf, hm], by cases e <;> simp [hf, hm]⟩
      | ok ts => exact .inl ⟨p, ts, rfl, by simpa using hf, hm, by simp [hf, hm], by simp [hf, hm]⟩

theorem updateDocument_of_docTests (isOther : Char → Bool) (content : List Char) (runs : List Ran)
    (tests : List UTest) (h : docTests content = some tests) :
    updateDocument isOther content runs = updateTests isOther content tests runs := by
  rcases updateDocument_cases isOther content runs with ⟨_, ts, _, _, _, hd, he⟩ | ⟨hn, _⟩
  · rw [h] at hd; cases hd; exact he
  · rw [h] at hn; cases hn

theorem docTests_of_updated {isOther : Char → Bool} {content : List Char} {runs : List Ran} {text : List Char}
    {results : List Gen.UpdResult} (h : updateDocument isOther content runs = .updated text results) :
    ∃ tests, docTests content = some tests := by
  rcases updateDocument_cases isOther content runs with ⟨_, ts, _, _, _, hd, _⟩ | ⟨_, hn⟩
  · exact ⟨ts, hd⟩
  · exact absurd h (hn _ _)

theorem docTests_spec {content : List Char} {tests : List UTest} (h : docTests content = some tests) :
    ∃ p, Markdown.parseMarkdown parseEnv content = .ok p ∧ p.docConfigs.all frontMatterHarmless = true ∧
      Pairs (fun t u => prepareU t = .ok u) p.tests tests := by
  -- the part of `updateDocument_cases` about `docTests` does not depend on `isOther` and the runs: any will do
  rcases updateDocument_cases (fun _ => false) content [] with ⟨p, ts, hp, hh, hm, hd, _⟩ | ⟨hn, _⟩
  · rw [h] at hd; cases hd; exact ⟨p, hp, hh, mapM_except_pairs _ _ _ hm⟩
  · rw [h] at hn; cases hn

theorem prepareU_ok_iff {t : LineParser.TestCase Markdown.Cfg} {u : UTest} :
    prepareU t = .ok u ↔ ∃ c exps, inlineCfg t.config = some c ∧
      cfgSupported (if t.config.isSome then withMarkdownDefaults c else c) = true ∧
      Pairs (fun o e => compile o = .ok e) t.expectations exps ∧
      u = ⟨⟨if t.config.isSome then withMarkdownDefaults c else c, exps, t.exitCode.map Int.ofNat⟩,
        t.shellExpression, t.expectations⟩ := by
  unfold prepareU prepare
  cases hi : inlineCfg t.config with
  | none => simp
  | some c =>
    by_cases hs : cfgSupported (if t.config.isSome then withMarkdownDefaults c else c) = true
    · cases hm : t.expectations.mapM compile with
      | error e =>
        have : ∀ exps, ¬ Pairs (fun o e => compile o = .ok e) t.expectations exps :=
          fun exps hp => by rw [pairs_mapM_except compile hp] at hm; cases hm
        constructor
        · intro h; cases e <;> simp [hs] at h
        · rintro ⟨_, exps, _, _, hp, _⟩; exact absurd hp (this exps)
      | ok exps =>
        simp only [hs, Bool.not_true, Bool.false_eq_true, if_false, Except.ok.injEq]
        constructor
        · rintro rfl; exact ⟨c, exps, rfl, hs, mapM_except_pairs _ _ _ hm, rfl⟩
        · rintro ⟨c', exps', hc, _, hp, rfl⟩
          cases hc
          rw [pairs_mapM_except compile hp] at hm
          cases hm; rfl
    · simp [hs]

theorem prepareU_compiled {t : LineParser.TestCase Markdown.Cfg} {u : UTest} (h : prepareU t = .ok u) :
    u.Compiled ∧ u.cmd = t.shellExpression ∧ u.origs = t.expectations ∧
    u.test.expected = t.exitCode.map Int.ofNat := by
  obtain ⟨c, exps, _, _, hp, rfl⟩ := prepareU_ok_iff.mp h
  exact ⟨hp, rfl, rfl, rfl⟩

theorem docTests_compiled {content : List Char} {tests : List UTest} (h : docTests content = some tests) :
    ∀ u ∈ tests, u.Compiled := by
  obtain ⟨p, _, _, hp⟩ := docTests_spec h
  intro u hu
  obtain ⟨k, hk, rfl⟩ := List.getElem_of_mem hu
  obtain ⟨t, _, ht⟩ := hp.get' k _ (List.getElem?_eq_getElem hk)
  exact (prepareU_compiled ht).1

theorem judgeAll_eq_mapM (isOther : Char → Bool) : ∀ (tests : List UTest) (runs : List Ran),
    judgeAll isOther tests runs = (tests.zip runs).mapM (fun p => outcomeText isOther p.1 p.2)
  | [], _ => rfl
  | _ :: _, [] => rfl
  | u :: us, r :: rs => by
    rw [judgeAll, judgeAll_eq_mapM isOther us rs, List.zip_cons_cons, List.mapM_cons]
    cases outcomeText isOther u r <;> cases (us.zip rs).mapM (fun p => outcomeText isOther p.1 p.2) <;> rfl

theorem judgeAll_pairs {isOther : Char → Bool} {tests : List UTest} {runs : List Ran}
    {os : List (Gen.UpdResult × Option (List Char))} (h : judgeAll isOther tests runs = .ok os) :
    Pairs (fun p o => outcomeText isOther p.1 p.2 = .ok o) (tests.zip runs) os :=
  mapM_except_pairs _ _ _ (judgeAll_eq_mapM isOther tests runs ▸ h)

theorem judgeAll_length_min (isOther : Char → Bool) :
    ∀ (tests : List UTest) (runs : List Ran) (os : List (Gen.UpdResult × Option (List Char))),
      judgeAll isOther tests runs = .ok os → os.length = min tests.length runs.length := by
  intro tests runs os h
  rw [← (judgeAll_pairs h).length_eq, List.length_zip]

theorem judgeAll_get {isOther : Char → Bool} {tests : List UTest} {runs : List Ran}
    {os : List (Gen.UpdResult × Option (List Char))} (h : judgeAll isOther tests runs = .ok os)
    {i : Nat} {o : Gen.UpdResult × Option (List Char)} (ho : os[i]? = some o) :
    ∃ u r, tests[i]? = some u ∧ runs[i]? = some r ∧ outcomeText isOther u r = .ok o := by
  obtain ⟨⟨u, r⟩, hz, hout⟩ := (judgeAll_pairs h).get' i o ho
  obtain ⟨hu, hr⟩ := List.getElem?_zip_eq_some.mp hz
  exact ⟨u, r, hu, hr, hout⟩

theorem judgeAll_passes (isOther : Char → Bool) :
    ∀ (tests : List UTest) (runs : List Ran), tests.length ≤ runs.length →
      (∀ (i : Nat) (u : UTest) (r : Ran), tests[i]? = some u → runs[i]? = some r → Passes u r) →
      judgeAll isOther tests runs = .ok (tests.map (fun u => (.ok, passText u)))
  | [], _, _, _ => rfl
  | _ :: _, [], hl, _ => by simp at hl
  | u :: us, r :: rs, hl, hp => by
    have ih := judgeAll_passes isOther us rs (by simpa using hl) (fun i u' r' hu hr => hp (i + 1) u' r' hu hr)
    cases hg : passText u with
    | none => have := passText_isSome u; simp [hg] at this
    | some g =>
      rw [judgeAll, outcomeText_passes isOther u r (hp 0 u r rfl rfl) g hg, ih]
      simp [hg]

theorem updateTests_updated {isOther : Char → Bool} {content : List Char} {tests : List UTest} {runs : List Ran}
    {text : List Char} {results : List Gen.UpdResult}
    (h : updateTests isOther content tests runs = .updated text results) :
    tests ≠ [] ∧ tests.length ≤ runs.length ∧ skipsDocument tests runs = false ∧
    ∃ os, judgeAll isOther tests runs = .ok os ∧ results = os.map (·.1) ∧
      generateUpdate [Gen.language] content (os.map (·.2)) = .ok text ∧ text ≠ content := by
  unfold updateTests at h
  by_cases h1 : tests.isEmpty = true
  · simp [h1] at h
  · simp only [h1] at h
    by_cases h2 : runs.length < tests.length
    · simp [h2] at h
    · simp only [h2] at h
      by_cases h3 : skipsDocument tests runs = true
      · simp [h3] at h
      · simp only [h3] at h
        refine ⟨by intro hn; simp [hn] at h1, by omega, by simpa using h3, ?_⟩
        cases hj : judgeAll isOther tests runs with
        | error e => cases e <;> simp [hj] at h
        | ok os =>
          simp only [hj] at h
          cases hg : generateUpdate [Gen.language] content (os.map (·.2)) with
          | error e => cases e <;> simp [hg] at h
          | ok upd =>
            simp only [hg] at h
            by_cases he : upd = content
            · simp [he] at h
            · simp only [he, if_false] at h
              cases h
              exact ⟨os, rfl, rfl, hg, he⟩

theorem updateTests_unchanged_of {isOther : Char → Bool} {content : List Char} {tests : List UTest} {runs : List Ran}
    {os : List (Gen.UpdResult × Option (List Char))}
    (hl : tests.length ≤ runs.length) (hj : judgeAll isOther tests runs = .ok os)
    (hg : generateUpdate [Gen.language] content (os.map (·.2)) = .ok content) :
    ∃ rs, updateTests isOther content tests runs = .unchanged rs := by
  unfold updateTests
  by_cases h1 : tests.isEmpty = true
  · exact ⟨[], by simp [h1]⟩
  · simp only [h1]
    have h2 : ¬ runs.length < tests.length := by omega
    simp only [h2]
    by_cases h3 : skipsDocument tests runs = true
    · exact ⟨[], by simp [h3]⟩
    · simp only [h3, hj, hg]
      exact ⟨os.map (·.1), by simp⟩

theorem judgeAll_gens {isOther : Char → Bool} {tests : List UTest} {runs : List Ran}
    {os : List (Gen.UpdResult × Option (List Char))} (h : judgeAll isOther tests runs = .ok os) :
    ∀ (k : Nat) (x : Option (List Char)), (os.map (·.2))[k]? = some x → ∃ g, x = some g ∧ GenOK g := by
  intro k x hk
  rw [List.getElem?_map] at hk
  cases ho : os[k]? with
  | none => simp [ho] at hk
  | some o =>
    simp only [ho, Option.map_some] at hk
    obtain ⟨u, r, _, _, hot⟩ := judgeAll_get h ho
    obtain ⟨recorded, text, _, _, h2, hg⟩ := outcomeText_ok hot
    cases hk
    exact ⟨text, h2, generateTestcaseUpd_genOK hg⟩

/-- the tokens of the document (`MarkdownIterator`; it never fails: `C06_no_crash`) -/
def docToks (content : List Char) : List Tok := runP [Gen.language] .top false 0 (splitLines content)

theorem tokenize_docToks (content : List Char) :
    tokenize [Gen.language] (splitLines content) = .ok (docToks content) := tokenize_eq _ _

/-- guard: no line of the document ends in a carriage return (after `read_file` has turned CR LF
into LF): the open finding `C10:not-idempotent-stray-carriage-return` -/
def NoStrayCR (content : List Char) : Prop := ∀ l ∈ splitLines content, l.getLast? ≠ some '\r'

instance (content : List Char) : Decidable (NoStrayCR content) := by unfold NoStrayCR; exact inferInstance

/-- guard: every front-matter is closed: the open finding `C10:front-matter-unterminated-gains-delimiter` -/
def FrontClosed (content : List Char) : Prop :=
  frontClosed (splitLines content).length 0 (docToks content) = true

instance (content : List Char) : Decidable (FrontClosed content) := by unfold FrontClosed; exact inferInstance

/-- every test of the document passes on its run -/
def AllPass (content : List Char) (runs : List Ran) : Prop :=
  ∃ tests, docTests content = some tests ∧ tests.length ≤ runs.length ∧
    ∀ (i : Nat) (u : UTest) (r : Ran), tests[i]? = some u → runs[i]? = some r → Passes u r

/-- guard: the document is written the way `update` writes passing tests (its run-independent
re-rendering is the document itself) -/
def Settled (content : List Char) : Prop :=
  match docTests content with
  | none => True
  | some tests =>
    (∀ u ∈ tests, (passText u).isSome = true) ∧
    match generateUpdate [Gen.language] content (tests.map passText) with
    | .ok t => t = content
    | .error _ => False

instance (content : List Char) : Decidable (Settled content) := by
  unfold Settled
  split
  · exact inferInstance
  · refine @instDecidableAnd _ _ inferInstance ?_
    split <;> exact inferInstance

/-- guard (`C10:not-idempotent-retained-quantified-expectations`): a test whose result is
`MalformedOutput` -- the one case in which expectations are retained next to new ones -- has no
quantified expectation -/
def QuantFree (content : List Char) (results : List Gen.UpdResult) : Prop :=
  ∀ tests, docTests content = some tests → ∀ (j : Nat) (u : UTest) (d : List Diff.DL),
    tests[j]? = some u → results[j]? = some (.malformed d) → Unquantified u

/-- the written document is read (it parses, its expectation lines compile) with the same test configurations
as the original, test by test -/
def SameConfigs (content text : List Char) : Prop :=
  ∃ tests tests', docTests content = some tests ∧ docTests text = some tests' ∧
    tests'.map (·.test.cfg) = tests.map (·.test.cfg)

theorem language_langOK : ∀ lang, [Gen.language].contains lang = true → LangOK lang := by
  intro lang h
  obtain rfl : lang = Gen.language := by simpa using h
  exact GenLemmas.langOK_scrut

theorem updateDocumentBytes_of_read (isOther : Char → Bool) (bytes : Bytes) (runs : List Ran) (content : List Char)
    (h : readFile bytes = .ok content) :
    updateDocumentBytes isOther bytes runs = updateDocument isOther content runs := by
  simp [updateDocumentBytes, h]

theorem read_of_result (isOther : Char → Bool) (bytes : Bytes) (runs : List Ran)
    (h : (∃ rs, updateDocumentBytes isOther bytes runs = .unchanged rs) ∨
         (∃ t rs, updateDocumentBytes isOther bytes runs = .updated t rs)) :
    ∃ content, readFile bytes = .ok content := by
  unfold updateDocumentBytes at h
  cases hr : readFile bytes with
  | error e => exfalso; cases e <;> simp [hr] at h
  | ok c => exact ⟨c, rfl⟩

theorem docTests_length {content : List Char} {tests : List UTest} (h : docTests content = some tests) :
    tests.length = (testBlocks (docToks content)).length := by
  obtain ⟨p, hp, _, hprep⟩ := docTests_spec h
  have := (parseLines_inv parseEnv (splitLines content) p hp).2
  rw [← hprep.length_eq, ← this.length_eq]
  rfl

/-- what `updateDocument … = .updated text results` says: the document has the tests `tests`, judged on the
runs with the outcomes `os`; the text written is `generate_update` of the document with their texts -/
structure Updated (isOther : Char → Bool) (content : List Char) (runs : List Ran) (text : List Char)
    (results : List Gen.UpdResult) (tests : List UTest) (os : List (Gen.UpdResult × Option (List Char))) : Prop where
  tests_eq : docTests content = some tests
  ne : tests ≠ []
  runs_le : tests.length ≤ runs.length
  judged : judgeAll isOther tests runs = .ok os
  results_eq : results = os.map (·.1)
  written : generateUpdate [Gen.language] content (os.map (·.2)) = .ok text
  changed : text ≠ content

theorem updated_spec {isOther : Char → Bool} {content : List Char} {runs : List Ran} {text : List Char}
    {results : List Gen.UpdResult} (h : updateDocument isOther content runs = .updated text results) :
    ∃ tests os, Updated isOther content runs text results tests os := by
  obtain ⟨tests, ht⟩ := docTests_of_updated h
  rw [updateDocument_of_docTests isOther content runs tests ht] at h
  obtain ⟨hne, hlen, _, os, hj, hres, hg, hd⟩ := updateTests_updated h
  exact ⟨tests, os, ht, hne, hlen, hj, hres, hg, hd⟩

section
variable {isOther : Char → Bool} {content : List Char} {runs : List Ran} {text : List Char}
  {results : List Gen.UpdResult} {tests : List UTest} {os : List (Gen.UpdResult × Option (List Char))}
  (hu : Updated isOther content runs text results tests os)
include hu

theorem Updated.length : os.length = tests.length := by
  rw [judgeAll_length_min isOther tests runs os hu.judged, Nat.min_eq_left hu.runs_le]

theorem Updated.gens_eq : docGens isOther content runs = some (os.map (·.2)) := by
  simp [docGens, docOutcomes, hu.tests_eq, hu.judged]

theorem Updated.gens_ne : os.map (·.2) ≠ [] := by
  intro h0
  have h1 : os = [] := by simpa using h0
  have := hu.length
  rw [h1] at this
  exact hu.ne (List.eq_nil_of_length_eq_zero this.symm)

theorem Updated.genOK : ∀ (k : Nat) (g : List Char), (os.map (·.2))[k]? = some (some g) → GenOK g := by
  intro k g hk
  obtain ⟨g', h1, h2⟩ := judgeAll_gens hu.judged k _ hk
  cases h1; exact h2

theorem Updated.get {k : Nat} {u : UTest} (hk : tests[k]? = some u) :
    ∃ r res g, runs[k]? = some r ∧ os[k]? = some (res, some g) ∧ outcomeText isOther u r = .ok (res, some g) := by
  have hko : k < os.length := by rw [hu.length]; exact (List.getElem?_eq_some_iff.mp hk).1
  obtain ⟨u', r, hu', hr, hot⟩ := judgeAll_get hu.judged (List.getElem?_eq_getElem hko)
  rw [hk] at hu'
  cases hu'
  obtain ⟨_, g, _, _, hg, _⟩ := outcomeText_ok hot
  have ho : os[k] = (os[k].1, some g) := by rw [← hg]
  exact ⟨r, os[k].1, g, hr, by rw [List.getElem?_eq_getElem hko, ← ho], by rw [hot, ← ho]⟩

/-- a document that `update` writes has a test, and behind an unterminated front-matter there is none -/
theorem Updated.front : FrontClosed content := by
  rcases frontClosed_or_no_tests [Gen.language] (splitLines content) with h | h
  · exact h
  · exfalso
    have hl := docTests_length hu.tests_eq
    rw [show testBlocks (docToks content) = [] from h] at hl
    exact hu.ne (List.eq_nil_of_length_eq_zero hl)

theorem Updated.reread (hcr : NoStrayCR content) :
    Reread (os.map (·.2)) 0 (docToks content) (docToks text) ∧
      cfgTexts (docToks text) = (cfgsOf (docToks content)).map writtenCfg :=
  generateUpdate_reread_cfg _ language_langOK _ hu.gens_ne hu.genOK content text hcr hu.front hu.written

theorem Updated.fixed (hcr : NoStrayCR content) : generateUpdate [Gen.language] text (os.map (·.2)) = .ok text :=
  generateUpdate_idempotent _ language_langOK _ hu.gens_ne hu.genOK content text hcr _
    (tokenize_docToks content) hu.front hu.written

end

/-- the `Bool` form of `AllPass`, for concrete documents -/
def allPassB (content : List Char) (runs : List Ran) : Bool :=
  match docTests content with
  | none => false
  | some tests => decide (tests.length ≤ runs.length) &&
      (tests.zip runs).all (fun p => match record p.1.test.cfg p.2 with
        | none => false
        | some recorded => judge p.1.test recorded p.2.code == some .ok)

theorem allPass_of_allPassB {content : List Char} {runs : List Ran} (h : allPassB content runs = true) :
    AllPass content runs := by
  unfold allPassB at h
  split at h
  · cases h
  · rename_i tests ht
    simp only [Bool.and_eq_true, decide_eq_true_eq, List.all_eq_true] at h
    refine ⟨tests, ht, h.1, fun i u r hu hr => ?_⟩
    have := h.2 (u, r) (List.mem_iff_getElem?.mpr ⟨i, List.getElem?_zip_eq_some.mpr ⟨hu, hr⟩⟩)
    split at this
    · cases this
    · rename_i recorded hrec; exact ⟨recorded, hrec, by simpa using this⟩

theorem quantFree_of_unquantified {content : List Char} {results : List Gen.UpdResult}
    (h : (docTests content).all (fun tests => tests.all (fun u => decide (Unquantified u))) = true) :
    QuantFree content results := by
  intro tests ht j u d hu _
  rw [ht] at h
  simpa using List.all_eq_true.mp h u (List.mem_of_getElem? hu)

theorem sameConfigs_of_cfgs {content text : List Char}
    (h : (docTests content).isSome = true ∧ (docTests text).isSome = true ∧
      (docTests text).map (·.map (·.test.cfg)) = (docTests content).map (·.map (·.test.cfg))) :
    SameConfigs content text := by
  obtain ⟨h1, h2, h3⟩ := h
  cases ht : docTests content with
  | none => simp [ht] at h1
  | some tests =>
    cases ht' : docTests text with
    | none => simp [ht'] at h2
    | some tests' => exact ⟨tests, tests', ht, ht', by simpa [ht, ht'] using h3⟩

theorem updateDocument_allPass {content : List Char} {runs : List Ran} (hp : AllPass content runs)
    (f g : Char → Bool) : updateDocument f content runs = updateDocument g content runs := by
  obtain ⟨tests, ht, hl, hpass⟩ := hp
  rw [updateDocument_of_docTests f content runs tests ht, updateDocument_of_docTests g content runs tests ht]
  unfold updateTests
  rw [judgeAll_passes f tests runs hl hpass, judgeAll_passes g tests runs hl hpass]

/-- the test blocks of the written document against those of the original (outcomes from `k` on):
same number, same order, the code lines of block `j` are the lines of the text of outcome `k + j`, its
configuration text is the one `update` wrote -/
inductive BlocksReread (gens : List (Option (List Char))) :
    Nat → List (Numbered × List Markdown.Line) → List (Numbered × List Markdown.Line) → Prop where
  | nil (k) : BlocksReread gens k [] []
  | cons (k b b' bs bs' g) : gens[k]? = some (some g) → b'.2 = splitLines g →
      configSuffix b'.1 = configSuffix b.1 → b'.1.map (·.2) = writtenCfg b.1 →
      BlocksReread gens (k + 1) bs bs' → BlocksReread gens k (b :: bs) (b' :: bs')

theorem reread_blocks {gens : List (Option (List Char))} {k : Nat} {toks toks' : List Tok}
    (h : Reread gens k toks toks') (hc : cfgTexts toks' = (cfgsOf toks).map writtenCfg) :
    BlocksReread gens k (testBlocks toks) (testBlocks toks') ∧ frontTexts toks' = frontTexts toks := by
  induction h with
  | nil k => exact ⟨.nil k, rfl⟩
  | line k i i' l r r' _ ih => simpa [testBlocks, frontTexts] using ih (by simpa only [cfgTexts, cfgsOf] using hc)
  | front k ls ls' r r' hl _ ih =>
    obtain ⟨ih1, ih2⟩ := ih (by simpa only [cfgTexts, cfgsOf] using hc)
    exact ⟨by simpa [testBlocks] using ih1, by simp only [frontTexts, joinNumbered, hl, ih2]⟩
  | verbatim k s s' lang ls r r' _ ih =>
    simpa [testBlocks, frontTexts] using ih (by simpa only [cfgTexts, cfgsOf] using hc)
  | testNoCode k lang cfg cfg' cm cm' r r' _ _ _ ih =>
    simp only [cfgTexts, cfgsOf, List.map_cons, List.cons.injEq] at hc
    simpa [testBlocks, frontTexts] using ih hc.2
  | testCode k lang cfg cfg' cm cm' cd cd' g r r' hcd hg hcs _ hcd' hne' _ ih =>
    have h1 : cd.isEmpty = false := by simpa using hcd
    have h2 : cd'.isEmpty = false := by simpa using hne'
    simp only [cfgTexts, cfgsOf, List.map_cons, List.cons.injEq] at hc
    obtain ⟨ih1, ih2⟩ := ih hc.2
    refine ⟨?_, by simpa [frontTexts] using ih2⟩
    simp only [testBlocks, h1, h2, Bool.false_eq_true, if_false]
    exact .cons k _ _ _ _ g hg hcd' hcs hc.1 ih1

theorem BlocksReread.length_eq {gens : List (Option (List Char))} {k : Nat}
    {bs bs' : List (Numbered × List Markdown.Line)} (h : BlocksReread gens k bs bs') : bs'.length = bs.length := by
  induction h with
  | nil => rfl
  | cons _ _ _ _ _ _ _ _ _ _ _ ih => simp [ih]

theorem BlocksReread.get {gens : List (Option (List Char))} {k : Nat}
    {bs bs' : List (Numbered × List Markdown.Line)} (h : BlocksReread gens k bs bs') :
    ∀ (j : Nat) (b' : Numbered × List Markdown.Line), bs'[j]? = some b' →
      ∃ b g, bs[j]? = some b ∧ gens[k + j]? = some (some g) ∧ b'.2 = splitLines g ∧
        configSuffix b'.1 = configSuffix b.1 ∧ b'.1.map (·.2) = writtenCfg b.1 := by
  induction h with
  | nil => intro j b' hj; cases hj
  | cons k b b0 bs bs' g h1 h2 h3 h4 _ ih =>
    intro j b' hj
    cases j with
    | zero =>
      obtain rfl := Option.some.inj hj
      exact ⟨b, g, rfl, h1, h2, h3, h4⟩
    | succ j =>
      obtain ⟨b1, g1, e1, e2, e3, e4, e5⟩ := ih j b' hj
      exact ⟨b1, g1, e1, by rw [Nat.add_comm j 1, ← Nat.add_assoc]; exact e2, e3, e4, e5⟩

theorem run_idempotent_of_same_texts {isOther : Char → Bool} {content : List Char} {runs : List Ran}
    {text : List Char} {results : List Gen.UpdResult}
    (h : updateDocument isOther content runs = .updated text results)
    (hcr : NoStrayCR content)
    (hsame : docGens isOther text runs = docGens isOther content runs) :
    ∃ rs, updateDocument isOther text runs = .unchanged rs := by
  obtain ⟨tests, os, hu⟩ := updated_spec h
  obtain ⟨hrr, hcw⟩ := hu.reread hcr
  rw [hu.gens_eq] at hsame
  unfold docGens docOutcomes at hsame
  cases ht' : docTests text with
  | none => simp [ht'] at hsame
  | some tests' =>
    simp only [ht'] at hsame
    cases hj' : judgeAll isOther tests' runs with
    | error e => simp [hj'] at hsame
    | ok os' =>
      simp only [hj', Option.map_some, Option.some.injEq] at hsame
      rw [updateDocument_of_docTests isOther text runs tests' ht']
      -- the same number of tests
      have hcount : tests'.length = tests.length := by
        rw [docTests_length ht', docTests_length hu.tests_eq]
        exact (reread_blocks hrr hcw).1.length_eq
      exact updateTests_unchanged_of (by rw [hcount]; exact hu.runs_le) hj' (by rw [hsame]; exact hu.fixed hcr)

end Scrut.UpdateRun
