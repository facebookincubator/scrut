import ScrutModel.Lemmas.Generate
/-!
# C09: every character `generate_expectation_line` writes is printable

ascii mode: printable ASCII; unicode mode: no `is_other` character (control, format, unassigned,
private use, surrogate). In particular no generated text holds a carriage return or a line feed, so
a document parser that splits at line ends (and drops a carriage return in front of them) reads
every generated line back as it was written.
-/
namespace Scrut.GenLemmas
open Scrut.Utf8 Scrut.Esc Scrut.EscLemmas Scrut.Gen

def CharOK (m : Mode) (isOther : Char → Bool) (c : Char) : Prop :=
  match m with
  | .ascii => PrintableAscii c
  | .unicode => isOther c = false

theorem charOK_of_printable {m : Mode} {isOther : Char → Bool} (hC : m = .unicode → AsciiContract isOther)
    {c : Char} (h : PrintableAscii c) : CharOK m isOther c := by
  cases m with
  | ascii => exact h
  | unicode => exact not_other_of_printable (hC rfl) h

theorem charOK_escapedExpectation (m : Mode) (isOther : Char → Bool)
    (hC : m = .unicode → AsciiContract isOther) (line : List UInt8) :
    ∀ c ∈ escapedExpectation m isOther line, CharOK m isOther c := by
  cases m with
  | ascii => exact ascii_printable isOther line
  | unicode => exact unicode_printable isOther (hC rfl) line

theorem mods_printable : (∀ c ∈ noEolMod, PrintableAscii c) ∧ (∀ c ∈ equalMod, PrintableAscii c) ∧
    (∀ c ∈ escapedMod, PrintableAscii c) ∧ (∀ c ∈ x20NoEol, PrintableAscii c) ∧
    (∀ c ∈ hexEscape '$', PrintableAscii c) ∧ (∀ c ∈ hexEscape '>', PrintableAscii c) := by decide +kernel

theorem charOK_body (m : Mode) (isOther : Char → Bool) (hC : m = .unicode → AsciiContract isOther)
    (line : List UInt8) : ∀ c ∈ expectationBody m isOther line, CharOK m isOther c := by
  intro c hc
  have hE := charOK_escapedExpectation m isOther hC (trimNewlines line)
  unfold expectationBody at hc
  simp only at hc
  split at hc
  · exact hE c hc
  · split at hc
    · rcases List.mem_append.mp hc with h | h
      · exact hE c h
      · exact charOK_of_printable hC (mods_printable.1 c h)
    · split at hc
      · rcases List.mem_append.mp hc with h | h
        · exact hE c h
        · exact charOK_of_printable hC (mods_printable.2.1 c h)
      · exact hE c hc

theorem mem_guardNoEol {c : Char} {e : List Char} (h : c ∈ guardNoEol e) : c ∈ e ∨ PrintableAscii c := by
  unfold guardNoEol at h
  split at h
  · rename_i body hb
    unfold stripSuffix? at hb
    split at hb
    · have hb' : e.take (e.length - (noEolMod ++ escapedMod).length) = body := by simpa using hb
      rcases List.mem_append.mp h with h | h
      · rcases List.mem_append.mp h with h | h
        · exact Or.inl (List.mem_of_mem_take (hb' ▸ h))
        · exact Or.inr (mods_printable.2.2.2.1 c h)
      · exact Or.inr (mods_printable.2.2.1 c h)
    · cases hb
  · exact Or.inl h

theorem mem_doubleBackslash {c : Char} {t : List Char} (h : c ∈ Grammar.doubleBackslash t) : c ∈ t ∨ c = '\\' := by
  unfold Grammar.doubleBackslash at h
  simp only [List.mem_flatMap] at h
  obtain ⟨x, hx, hc⟩ := h
  split at hc
  · rename_i hxb
    right
    simp at hc
    rcases hc with rfl | rfl <;> rfl
  · left
    have : c = x := by simpa using hc
    rw [this]; exact hx

theorem charOK_decoded {m : Mode} {isOther : Char → Bool} {content : List UInt8} {cs : List Char}
    (hu : hasUnprintable m isOther content = false) (hd : utf8Decode content = some cs) :
    ∀ c ∈ cs, CharOK m isOther c := by
  intro c hc
  cases m with
  | unicode =>
    simp only [hasUnprintable, hasUnprintableUnicode, hd, List.any_eq_false] at hu
    show isOther c = false
    have := hu c hc
    simpa using this
  | ascii =>
    have hu' : hasUnprintableAscii content = false := hu
    have hdec := utf8Decode_printable hu'
    rw [hdec] at hd
    have : cs = asciiText content := (Option.some.inj hd).symm
    subst this
    simp only [asciiText, List.mem_map] at hc
    obtain ⟨b, hb, rfl⟩ := hc
    simp only [hasUnprintableAscii, List.any_eq_false, printableByte, Bool.not_eq_true,
      Bool.not_eq_false', Bool.and_eq_true, decide_eq_true_eq] at hu'
    have := hu' b hb
    exact ofNat_printable _ this.1 this.2

theorem expectationLine_printable (m : Mode) (isOther : Char → Bool)
    (hC : m = .unicode → AsciiContract isOther) (line : List UInt8) (t : List Char)
    (ht : expectationLine m isOther line = some t) : ∀ c ∈ t, CharOK m isOther c := by
  unfold expectationLine at ht
  obtain ⟨e, he, rfl⟩ := Option.map_eq_some_iff.mp ht
  have hB := charOK_body m isOther hC line
  have hbs : CharOK m isOther '\\' := charOK_of_printable hC (by decide)
  have hlead : ∀ ch, commandLead (expectationBody m isOther line) = some ch →
      ∀ c ∈ hexEscape ch, PrintableAscii c := by
    intro ch hch
    rcases (commandLead_some hch).1 with rfl | rfl
    · exact mods_printable.2.2.2.2.1
    · exact mods_printable.2.2.2.2.2
  have he_ok : ∀ c ∈ e, CharOK m isOther c := by
    unfold escapeLead at he
    simp only at he
    split at he
    · have : expectationBody m isOther line = e := by simpa using he
      rw [← this]; exact hB
    · rename_i ch hch
      split at he
      · have : hexEscape ch ++ (expectationBody m isOther line).drop 1 = e := by simpa using he
        rw [← this]
        intro c hc
        rcases List.mem_append.mp hc with h | h
        · exact charOK_of_printable hC (hlead ch hch c h)
        · exact hB c (List.mem_of_mem_drop h)
      · rename_i hu
        have hu' : hasUnprintable m isOther (trimNewlines line) = false := by simpa using hu
        split at he
        · rename_i x rest hd
          have : hexEscape ch ++ Grammar.doubleBackslash rest ++ escapedMod = e := by simpa using he
          rw [← this]
          intro c hc
          rcases List.mem_append.mp hc with h | h
          · rcases List.mem_append.mp h with h | h
            · exact charOK_of_printable hC (hlead ch hch c h)
            · rcases mem_doubleBackslash h with h | rfl
              · exact charOK_decoded hu' hd c (List.mem_cons_of_mem _ h)
              · exact hbs
          · exact charOK_of_printable hC (mods_printable.2.2.1 c h)
        · cases he
  intro c hc
  rcases mem_guardNoEol hc with h | h
  · exact he_ok c h
  · exact charOK_of_printable hC h

theorem charOK_not_ctl {m : Mode} {isOther : Char → Bool} (hC : m = .unicode → AsciiContract isOther)
    {c : Char} (h : CharOK m isOther c) : c ≠ '\r' ∧ c ≠ '\n' := by
  cases m with
  | ascii =>
    have h' : PrintableAscii c := h
    constructor <;> (intro e; subst e; revert h'; decide)
  | unicode =>
    have h' : isOther c = false := h
    have hc := hC rfl
    constructor
    · intro e; subst e
      have := (hc '\r' (by decide)).mpr (Or.inl (by decide))
      rw [this] at h'; cases h'
    · intro e; subst e
      have := (hc '\n' (by decide)).mpr (Or.inl (by decide))
      rw [this] at h'; cases h'

end Scrut.GenLemmas
