import ScrutModel.Model.RulesStr
import ScrutModel.Lemmas.Utf8
/-!
# Decoding what the escaper writes gives back the bytes (token-wise, both passes)

`Tok t bs`: the piece of text `t`, followed by anything, is consumed by the two decoder passes as
exactly the bytes `bs`. Tokens compose; the tokens of the documented grammar come from the equations
of the two passes, and what the escaper writes for a byte is one of them.
-/
namespace Scrut.EscLemmas
open Scrut.Utf8 Scrut.Esc Scrut.EscF

/-- `\a \b \e \f \r \t \v` -/
def ctlVal (d : Char) : Option UInt8 :=
  if d = 'a' then some 7 else if d = 'b' then some 8 else if d = 'e' then some 27
  else if d = 'f' then some 12 else if d = 'r' then some 13 else if d = 't' then some 9
  else if d = 'v' then some 11 else none

theorem unescapeTabs_cons_ne {c : Char} (h : c ≠ '\\') (r : List Char) :
    unescapeTabs (c :: r) = c :: unescapeTabs r := by
  cases r with
  | nil => simp [unescapeTabs]
  | cons d rest => simp [unescapeTabs, h]

/-- pass 1 at a backslash: a control letter becomes its character (a code below 32), any other
pair is kept -/
theorem unescapeTabs_bs (d : Char) (r : List Char) :
    match ctlVal d with
    | some v => v.toNat < 32 ∧ unescapeTabs ('\\' :: d :: r) = Char.ofNat v.toNat :: unescapeTabs r
    | none => unescapeTabs ('\\' :: d :: r) = '\\' :: d :: unescapeTabs r := by
  rw [unescapeTabs, if_pos rfl, ctlVal]
  by_cases ha : d = 'a'; · rw [if_pos ha, if_pos ha]; exact ⟨by decide, rfl⟩
  rw [if_neg ha, if_neg ha]
  by_cases hb : d = 'b'; · rw [if_pos hb, if_pos hb]; exact ⟨by decide, rfl⟩
  rw [if_neg hb, if_neg hb]
  by_cases he : d = 'e'; · rw [if_pos he, if_pos he]; exact ⟨by decide, rfl⟩
  rw [if_neg he, if_neg he]
  by_cases hf : d = 'f'; · rw [if_pos hf, if_pos hf]; exact ⟨by decide, rfl⟩
  rw [if_neg hf, if_neg hf]
  by_cases hr : d = 'r'; · rw [if_pos hr, if_pos hr]; exact ⟨by decide, rfl⟩
  rw [if_neg hr, if_neg hr]
  by_cases ht : d = 't'; · rw [if_pos ht, if_pos ht]; exact ⟨by decide, rfl⟩
  rw [if_neg ht, if_neg ht]
  by_cases hv : d = 'v'; · rw [if_pos hv, if_pos hv]; exact ⟨by decide, rfl⟩
  rw [if_neg hv, if_neg hv]; rfl

theorem unescapeTabs_keep {d : Char} (h : ctlVal d = none) (r : List Char) :
    unescapeTabs ('\\' :: d :: r) = '\\' :: d :: unescapeTabs r := by
  have := unescapeTabs_bs d r
  rwa [h] at this

theorem resolve_cons_ne {c : Char} (h : c ≠ '\\') (r : List Char) :
    resolve (c :: r) = (resolve r).map (String.utf8EncodeChar c ++ ·) := by
  rw [resolve.eq_def]; simp [h]

theorem resolve_bs_bs (r : List Char) :
    resolve ('\\' :: '\\' :: r) = (resolve r).map (UInt8.ofNat 92 :: ·) := by
  rw [resolve.eq_def]; simp (decide := true)

theorem resolve_x (h1 h2 : Char) (a b : Nat) (ha : hexVal h1 = some a) (hb : hexVal h2 = some b)
    (r : List Char) :
    resolve ('\\' :: 'x' :: h1 :: h2 :: r) = (resolve r).map (UInt8.ofNat (a * 16 + b) :: ·) := by
  rw [resolve.eq_def]; simp (decide := true) [parsePair, ha, hb]
  cases resolve r <;> simp

theorem resolve_0 (o1 o2 : Char) (a b : Nat) (ha : octVal o1 = some a) (hb : octVal o2 = some b)
    (r : List Char) :
    resolve ('\\' :: '0' :: o1 :: o2 :: r) = (resolve r).map (UInt8.ofNat (a * 8 + b) :: ·) := by
  rw [resolve.eq_def]; simp (decide := true) [parsePair, ha, hb]
  cases resolve r <;> simp

theorem hexVal_ne {c : Char} {a : Nat} (h : hexVal c = some a) : c ≠ '\\' := by
  intro he; subst he; simp [hexVal] at h

theorem octVal_ne {c : Char} {a : Nat} (h : octVal c = some a) : c ≠ '\\' := by
  intro he; subst he; simp [octVal] at h

theorem ofNat_ne_backslash {n : Nat} (h : n < 0x80) (hb : n ≠ 92) : Char.ofNat n ≠ '\\' := by
  intro e
  have := congrArg Char.toNat e
  rw [toNat_ofNat n (by omega)] at this
  exact hb this

/-- the two passes read `t` (in front of anything) as the bytes `bs` -/
def Tok (t : List Char) (bs : List UInt8) : Prop :=
  ∀ r, resolve (unescapeTabs (t ++ r)) = (resolve (unescapeTabs r)).map (bs ++ ·)

theorem Tok.nil : Tok [] [] := by
  intro r; simp only [List.nil_append]; cases resolve (unescapeTabs r) <;> simp

theorem Tok.append {t1 t2 : List Char} {b1 b2 : List UInt8} (h1 : Tok t1 b1) (h2 : Tok t2 b2) :
    Tok (t1 ++ t2) (b1 ++ b2) := by
  intro r
  rw [List.append_assoc, h1, h2]
  cases resolve (unescapeTabs r) <;> simp

theorem Tok.flatMap {α : Type} (f : α → List Char) (g : α → List UInt8) (l : List α)
    (h : ∀ a ∈ l, Tok (f a) (g a)) : Tok (l.flatMap f) (l.flatMap g) := by
  induction l with
  | nil => exact Tok.nil
  | cons a l ih =>
    simp only [List.flatMap_cons]
    exact Tok.append (h a (by simp)) (ih (fun x hx => h x (by simp [hx])))

theorem Tok.decode_eq {t : List Char} {bs : List UInt8} (h : Tok t bs) : EscF.decode t = some bs := by
  have := h []
  simpa [EscF.decode, unescapeTabs, resolve] using this

theorem Tok.unique {t : List Char} {b1 b2 : List UInt8} (h1 : Tok t b1) (h2 : Tok t b2) : b1 = b2 := by
  have := h1.decode_eq.symm.trans h2.decode_eq
  simpa using this

theorem Tok.char {c : Char} (h : c ≠ '\\') : Tok [c] (String.utf8EncodeChar c) := by
  intro r
  simp [unescapeTabs_cons_ne h, resolve_cons_ne h]

theorem Tok.backslash : Tok ['\\', '\\'] [92] := by
  intro r
  rw [List.cons_append, List.cons_append, List.nil_append, unescapeTabs_keep (by decide), resolve_bs_bs]
  rfl

theorem Tok.hex {h1 h2 : Char} {a b : Nat} (ha : hexVal h1 = some a) (hb : hexVal h2 = some b) :
    Tok ['\\', 'x', h1, h2] [UInt8.ofNat (a * 16 + b)] := by
  intro r
  simp only [List.cons_append, List.nil_append]
  rw [unescapeTabs_keep (by decide), unescapeTabs_cons_ne (hexVal_ne ha),
    unescapeTabs_cons_ne (hexVal_ne hb), resolve_x _ _ _ _ ha hb]

theorem Tok.oct {o1 o2 : Char} {a b : Nat} (ha : octVal o1 = some a) (hb : octVal o2 = some b) :
    Tok ['\\', '0', o1, o2] [UInt8.ofNat (a * 8 + b)] := by
  intro r
  simp only [List.cons_append, List.nil_append]
  rw [unescapeTabs_keep (by decide), unescapeTabs_cons_ne (octVal_ne ha),
    unescapeTabs_cons_ne (octVal_ne hb), resolve_0 _ _ _ _ ha hb]

theorem Tok.ctl {d : Char} {v : UInt8} (h : ctlVal d = some v) : Tok ['\\', d] [v] := by
  intro r
  have := unescapeTabs_bs d r
  rw [h] at this
  obtain ⟨hv, e⟩ := this
  rw [List.cons_append, List.cons_append, List.nil_append, e,
    resolve_cons_ne (ofNat_ne_backslash (by omega) (by omega)), enc1 _ (by omega), UInt8.ofNat_toNat]

theorem Tok.other {d : Char} (hx : d ≠ 'x') (h0 : d ≠ '0') (hb : d ≠ '\\') (hc : ctlVal d = none) :
    Tok ['\\', d] (92 :: String.utf8EncodeChar d) := by
  intro r
  rw [List.cons_append, List.cons_append, List.nil_append, unescapeTabs_keep hc, resolve.eq_def]
  simp [h0, hx, hb]

/-- a printable character that is neither the blank nor a line feed -/
structure Graphic (c : Char) : Prop where
  ne_nl : c ≠ '\n'
  ne_space : c ≠ ' '
  lo : 0x20 ≤ c.toNat
  hi : c.toNat ≤ 0x7e

instance (c : Char) : Decidable (Graphic c) :=
  decidable_of_iff (c ≠ '\n' ∧ c ≠ ' ' ∧ 0x20 ≤ c.toNat ∧ c.toNat ≤ 0x7e)
    ⟨fun ⟨h1, h2, h3, h4⟩ => ⟨h1, h2, h3, h4⟩, fun ⟨h1, h2, h3, h4⟩ => ⟨h1, h2, h3, h4⟩⟩

theorem hexChar_val : ∀ d, d < 16 → hexVal (hexChar d) = some d := by decide +kernel

theorem hexChar_graphic : ∀ d, d < 16 → Graphic (hexChar d) := by decide +kernel

/-- the bytes written as a backslash and a letter -/
def escLetters : List (Nat × Char) :=
  [(10, 'n'), (13, 'r'), (9, 't'), (7, 'a'), (8, 'b'), (12, 'f'), (11, 'v'), (92, '\\')]

theorem escLetters_render : ∀ p ∈ escLetters, byteToAsciiN p.1 = ['\\', p.2] ∧ Graphic p.2 := by
  decide +kernel

/-- each of these pairs is a token for its byte, except `\n`: the escaper writes it for a line feed,
but neither decoder pass knows it (so everything downstream speaks of bytes without line feed) -/
theorem escLetters_tok : ∀ p ∈ escLetters, p.1 ≠ 10 → Tok ['\\', p.2] [UInt8.ofNat p.1] := by
  simp only [escLetters, List.forall_mem_cons, List.not_mem_nil, false_imp_iff, implies_true, and_true]
  refine ⟨fun h => absurd rfl h, ?_, ?_, ?_, ?_, ?_, ?_, ?_⟩ <;> intro _
  · exact Tok.ctl (d := 'r') rfl
  · exact Tok.ctl (d := 't') rfl
  · exact Tok.ctl (d := 'a') rfl
  · exact Tok.ctl (d := 'b') rfl
  · exact Tok.ctl (d := 'f') rfl
  · exact Tok.ctl (d := 'v') rfl
  · exact Tok.backslash

theorem byteToAsciiN_cases (v : Nat) :
    (∃ l, (v, l) ∈ escLetters ∧ byteToAsciiN v = ['\\', l]) ∨
    (32 ≤ v ∧ v ≤ 126 ∧ v ≠ 92 ∧ byteToAsciiN v = [Char.ofNat v]) ∨
    ((v < 32 ∨ 126 < v) ∧ byteToAsciiN v = ['\\', 'x', hexChar (v / 16), hexChar (v % 16)]) := by
  by_cases hk : v ∈ escLetters.map (·.1)
  · obtain ⟨p, hp, rfl⟩ := List.mem_map.mp hk
    exact .inl ⟨p.2, hp, (escLetters_render p hp).1⟩
  · simp only [escLetters, List.map_cons, List.map_nil, List.mem_cons, List.not_mem_nil, or_false,
      not_or] at hk
    obtain ⟨h10, h13, h9, h7, h8, h12, h11, h92⟩ := hk
    unfold byteToAsciiN
    rw [if_neg h10, if_neg h13, if_neg h9, if_neg h7, if_neg h8, if_neg h12, if_neg h11, if_neg h92]
    by_cases hp : 32 ≤ v ∧ v ≤ 126
    · rw [if_pos hp]; exact .inr (.inl ⟨hp.1, hp.2, h92, rfl⟩)
    · rw [if_neg hp]; exact .inr (.inr ⟨by omega, rfl⟩)

theorem Tok.byte (b : UInt8) (hb : b.toNat ≠ 10) : Tok (byteToAscii b) [b] := by
  have hlt : b.toNat < 256 := b.toNat_lt
  have hbv : UInt8.ofNat b.toNat = b := UInt8.ofNat_toNat
  unfold byteToAscii
  generalize b.toNat = v at *
  rcases byteToAsciiN_cases v with ⟨l, hl, e⟩ | ⟨h1, h2, h92, e⟩ | ⟨_, e⟩
  · rw [e, ← hbv]; exact escLetters_tok _ hl hb
  · have := Tok.char (ofNat_ne_backslash (n := v) (by omega) h92)
    rwa [enc1 v (by omega), hbv, ← e] at this
  · have := Tok.hex (hexChar_val (v / 16) (by omega)) (hexChar_val (v % 16) (by omega))
    rwa [show v / 16 * 16 + v % 16 = v by omega, hbv, ← e] at this

theorem Tok.encodeAscii (l : List UInt8) (h : ∀ b ∈ l, b.toNat ≠ 10) : Tok (encodeAscii l) l := by
  have := Tok.flatMap byteToAscii (fun b => [b]) l (fun b hb => Tok.byte b (h b hb))
  simpa [Scrut.Esc.encodeAscii] using this

theorem decode_encodeAscii (l : List UInt8) (h : ∀ b ∈ l, b.toNat ≠ 10) :
    decode (encodeAscii l) = some l := (Tok.encodeAscii l h).decode_eq

end Scrut.EscLemmas
