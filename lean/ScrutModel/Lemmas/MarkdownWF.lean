import ScrutModel.Lemmas.Markdown
/-!
# Well-formed documents, closed or ending in an unterminated construct:
`parseLines env (render items) = .ok { docConfigs := docTexts items, tests := expectedTests env items 0 none [] }`

A rendered construct becomes exactly one token; on a clean `LineParser` state the token of a block becomes
exactly the test that is written (`parse_items_then`, `parse_tail`).  The last sections (inserting inert
items, interchangeable prose lines, inline code spans, line numbers) serve `Props/C06.lean` only.
-/
namespace Scrut.Markdown
open Scrut.LineParser

/-! One lemma per kind of construct: the tokenizer reads the opening line and the body and stands, in the
mode of the construct, in front of whatever follows – the closing line, or the end of the document. -/

theorem startsWith_self (l : Line) : startsWith l l = true := by
  unfold startsWith
  induction l with
  | nil => rfl
  | cons c r ih => simp [List.isPrefixOf]

theorem runP_front_body (L : List Line) (body : List Line) (hb : ∀ x ∈ body, x ≠ frontMatterFence)
    (li : Nat) (rest : List Line) :
    runP L .top false li (frontMatterFence :: (body ++ rest))
      = runP L (.front (number (li + 1) body)) false (li + 1 + body.length) rest := by
  rw [runP_top_cons]
  simpa using front_skip L false body rest hb [] (li + 1)

theorem runP_foreign_body (L : List Line) (v : Fenced)
    (hx : extractCodeBlockStart v.opener = .ok (some (v.bt, v.language, v.config)))
    (hl : L.contains v.language = false) (hbody : ∀ x ∈ v.body, startsWith x v.bt = false)
    (cs : Bool) (li : Nat) (rest : List Line) :
    runP L .top cs li (v.openLines ++ rest)
      = runP L (.verb v.bt li v.language v.openLines) true (li + 1 + v.body.length) rest := by
  simp only [Fenced.openLines, List.cons_append]
  rw [runP_opener L hx, hl]
  simpa using verb_skip L true v.bt li v.language v.body rest hbody [v.opener] (li + 1)

theorem runP_noCommand_body (L : List Line) (v : Fenced)
    (hx : extractCodeBlockStart v.opener = .ok (some (v.bt, v.language, v.config)))
    (hl : L.contains v.language = true) (hbody : ∀ x ∈ v.body, startsWith x v.bt = false)
    (hcm : ∀ c ∈ v.body, isComment c = true) (cs : Bool) (li : Nat) (rest : List Line) :
    runP L .top cs li (v.openLines ++ rest)
      = runP L (.test v.bt v.language (cfgLines li v.config) (number (li + 1) v.body) []) true
          (li + 1 + v.body.length) rest := by
  simp only [Fenced.openLines, List.cons_append]
  rw [runP_opener L hx, hl]
  simpa using fwd_test_comments L true v.bt v.language (cfgLines li v.config) v.body rest hbody hcm [] (li + 1)

theorem runP_block_body (L : List Line) (b : Block)
    (hx : extractCodeBlockStart b.opener = .ok (some (b.bt, b.language, b.config)))
    (hl : L.contains b.language = true) (hbody : ∀ x ∈ b.body, startsWith x b.bt = false)
    (hcm : ∀ c ∈ b.comments, isComment c = true) (cs : Bool) (li : Nat) (rest : List Line) :
    runP L .top cs li (b.openLines ++ rest)
      = runP L (.test b.bt b.language (cfgLines li b.config) (number (li + 1) b.comments)
          (number (li + 1 + b.comments.length) b.code)) true (li + 1 + b.body.length) rest := by
  have hcomm : ∀ c ∈ b.comments, startsWith c b.bt = false := fun c hc => hbody c (by simp [Block.body, hc])
  have hcode : ∀ c ∈ b.code, startsWith c b.bt = false := fun c hc => hbody c (by simp [Block.body, hc])
  simp only [Block.openLines, Block.body, List.cons_append, List.append_assoc]
  rw [runP_opener L hx, hl, Bool.not_true, if_neg Bool.false_ne_true,
    fwd_test_comments L true b.bt b.language (cfgLines li b.config) b.comments _ hcomm hcm [] (li + 1), List.nil_append]
  -- the `$` line is no comment; from it on everything is code
  have hcmd : startsWith b.cmdLine b.bt = false := hcode _ (by simp [Block.code])
  have hnc : isComment b.cmdLine = false := rfl
  have hrest : ∀ c ∈ b.more.map contLine ++ b.after, startsWith c b.bt = false :=
    fun c hc => hcode c (by simp only [Block.code, List.mem_cons]; exact Or.inr hc)
  simp only [Block.code, List.cons_append, runP, hcmd, hnc, Bool.and_false, Bool.false_eq_true, if_false,
    List.nil_append]
  obtain ⟨cm', cd', heq, hcm', _, _, hrun⟩ :=
    test_skip L true b.bt b.language (cfgLines li b.config) (b.more.map contLine ++ b.after) hrest
      (number (li + 1) b.comments) [(li + 1 + b.comments.length, b.cmdLine)] (li + 1 + b.comments.length + 1)
  cases hcm' (by simp)
  rw [List.append_assoc] at heq
  cases List.append_cancel_left heq
  rw [hrun]
  simp only [number, List.cons_append, List.nil_append, List.length_append, List.length_cons, List.length_map]
  congr 1
  omega

theorem runP_front (L : List Line) (body : List Line) (hb : ∀ x ∈ body, x ≠ frontMatterFence)
    (li : Nat) (rest : List Line) :
    runP L .top false li ((Item.front body).lines ++ rest)
      = .docConfig (number (li + 1) body) :: runP L .top false (li + (body.length + 2)) rest := by
  have e : li + 1 + body.length + 1 = li + (body.length + 2) := by omega
  simp only [Item.lines, List.cons_append, List.append_assoc, List.nil_append]
  rw [runP_front_body L body hb, ← e]
  simp [runP]

theorem runP_foreign (env : Env) (v : Fenced) (wf : v.ForeignWF env) (cs : Bool) (li : Nat) (rest : List Line) :
    runP env.languages .top cs li (v.lines ++ rest)
      = .verbatim li v.language v.lines :: runP env.languages .top true (li + v.lines.length) rest := by
  obtain ⟨hx, hl, _, hbody, hcl⟩ := wf
  have e : v.lines ++ rest = v.openLines ++ v.closer :: rest := by simp [Fenced.lines, Fenced.openLines]
  have ek : li + v.lines.length = li + 1 + v.body.length + 1 := by simp [Fenced.lines]; omega
  rw [e, runP_foreign_body env.languages v hx hl hbody, ek]
  simp [runP, hcl, Fenced.lines, Fenced.openLines]

theorem runP_noCommand (env : Env) (v : Fenced) (wf : v.NoCommandWF env) (cs : Bool) (li : Nat) (rest : List Line) :
    runP env.languages .top cs li (v.lines ++ rest)
      = .test v.language (cfgLines li v.config) (number (li + 1) v.body) []
        :: runP env.languages .top true (li + v.lines.length) rest := by
  obtain ⟨hx, hl, _, hbody, hcl, hcm⟩ := wf
  have e : v.lines ++ rest = v.openLines ++ v.closer :: rest := by simp [Fenced.lines, Fenced.openLines]
  have ek : li + v.lines.length = li + 1 + v.body.length + 1 := by simp [Fenced.lines]; omega
  rw [e, runP_noCommand_body env.languages v hx hl hbody hcm, ek]
  simp [runP, hcl]

theorem runP_block (env : Env) (b : Block) (wf : b.WF env) (cs : Bool) (li : Nat) (rest : List Line) :
    runP env.languages .top cs li (b.lines ++ rest)
      = .test b.language (cfgLines li b.config) (number (li + 1) b.comments)
          (number (li + 1 + b.comments.length) b.code)
        :: runP env.languages .top true (li + b.lines.length) rest := by
  obtain ⟨hx, hl, _, hbody, hcl, hcm, _⟩ := wf
  have e : b.lines ++ rest = b.openLines ++ b.closer :: rest := by simp [Block.lines, Block.openLines]
  have ek : li + b.lines.length = li + 1 + b.body.length + 1 := by simp [Block.lines]; omega
  rw [e, runP_block_body env.languages b hx hl hbody hcm, ek]
  simp [runP, hcl]

theorem joinNumbered_number (k : Nat) (ls : List Line) : joinNumbered (number k ls) = joinNl ls := by
  simp [joinNumbered, number_map_snd]

/-- the `LineParser` state between tests -/
structure Clean (s : LineParser.State Cfg) : Prop where
  cmd : s.command = []
  exps : s.expectations = []
  code : s.exitCode = none
  osi : s.outputStartIndex = none
  amc : s.allowMultipleCommands = false

theorem Clean.setTitle {s : LineParser.State Cfg} (hc : Clean s) (t : Line) : Clean (s.setTitle t) :=
  ⟨hc.cmd, hc.exps, hc.code, hc.osi, hc.amc⟩

theorem Clean.setConfig {s : LineParser.State Cfg} (hc : Clean s) (c : Cfg) : Clean (s.setConfig c) :=
  ⟨hc.cmd, hc.exps, hc.code, hc.osi, hc.amc⟩

/-- the line directly behind the command does not continue it -/
def NotCont (after : List Line) : Prop :=
  match after with
  | a :: _ => stripPrefix ['>', ' '] a = none
  | [] => True

theorem exitCodes_cons_some {l : Line} {n : Nat} (r : List Line) (h : extractExitCode l = some n) :
    exitCodes (l :: r) = n :: exitCodes r := by simp [exitCodes, h]

theorem exitCodes_cons_none {l : Line} (r : List Line) (h : extractExitCode l = none) :
    exitCodes (l :: r) = exitCodes r := by simp [exitCodes, h]

theorem expLines_cons_some {l : Line} {n : Nat} (r : List Line) (h : extractExitCode l = some n) :
    expLines (l :: r) = expLines r := by simp [expLines, h]

theorem expLines_cons_none {l : Line} (r : List Line) (h : extractExitCode l = none) :
    expLines (l :: r) = l :: expLines r := by simp [expLines, h]

/-- the state after the continuation lines `more` and the lines `after` below them: command lines, expectations
and exit code added -/
def belowState (s : LineParser.State Cfg) (more : List Line) (ic : Bool) (after : List Line) : LineParser.State Cfg :=
  { s with command := s.command ++ more, inCommand := ic, expectations := s.expectations ++ expLines after,
           exitCode := s.exitCode.or (exitCodes after).head? }

theorem belowState_nil (s : LineParser.State Cfg) : belowState s [] s.inCommand [] = s := by
  cases s; simp [belowState, expLines, exitCodes]

theorem belowState_cons_cont (s : LineParser.State Cfg) (x : Line) (more after : List Line) (ic : Bool) :
    belowState { s with command := s.command ++ [x] } more ic after = belowState s (x :: more) ic after := by
  simp [belowState]

theorem belowState_cons_exit (s : LineParser.State Cfg) {l : Line} {n : Nat} (rest : List Line) (ic : Bool)
    (hx : extractExitCode l = some n) (he : s.exitCode = none) :
    belowState { s with inCommand := false, exitCode := some n } [] ic rest = belowState s [] ic (l :: rest) := by
  simp [belowState, exitCodes_cons_some _ hx, expLines_cons_some _ hx, he]

theorem belowState_cons_exp (s : LineParser.State Cfg) {l : Line} (rest : List Line) (ic : Bool)
    (hx : extractExitCode l = none) :
    belowState { s with inCommand := false, expectations := s.expectations ++ [l] } [] ic rest
      = belowState s [] ic (l :: rest) := by
  simp [belowState, exitCodes_cons_none _ hx, expLines_cons_none _ hx]

/-- `in_command` survives only if there is no line below the command (`code.isEmpty`) -/
theorem addAll_below (expOk : Line → Bool) : ∀ (code : Numbered) (s s' : LineParser.State Cfg),
    s.command ≠ [] → s.allowMultipleCommands = false → (s.inCommand = true → NotCont (code.map (·.2))) →
    (addAll expOk s code = .ok s' ↔
      (∀ e ∈ expLines (code.map (·.2)), expOk e = true ∧ isExitCodeForm e = false) ∧
      (match s.exitCode with
        | some _ => exitCodes (code.map (·.2)) = []
        | none => (exitCodes (code.map (·.2))).length ≤ 1) ∧
      s' = belowState s [] (s.inCommand && code.isEmpty) (code.map (·.2)))
  | [], s, s', _, _, _ => by
    simp only [addAll, List.map_nil, List.isEmpty_nil, Bool.and_true, belowState_nil, Except.ok.injEq]
    constructor
    · rintro rfl
      exact ⟨by simp [expLines], by cases s.exitCode <;> simp [exitCodes], rfl⟩
    · exact fun h => h.2.2.symm
  | (i, l) :: rest, s, s', hc, ha, hn => by
    have hl : s.inCommand = true → stripPrefix ['>', ' '] l = none := hn
    have ih := fun s1 (h1 : s1.command ≠ []) (h2 : s1.allowMultipleCommands = false) (h3 : s1.inCommand = false) =>
      addAll_below expOk rest s1 s' h1 h2 (by rw [h3]; intro h; cases h)
    have he : s.command.isEmpty = false := by simpa using hc
    simp only [addAll, addBody_rest expOk l i (by simp [ha, he]) hl, he, Bool.false_eq_true, if_false, List.map_cons,
      List.isEmpty_cons, Bool.and_false]
    cases hx : extractExitCode l with
    | some n =>
      rw [exitCodeOverflows_of_extract hx, exitCodes_cons_some _ hx, expLines_cons_some _ hx]
      cases he : s.exitCode with
      | some c => simp
      | none =>
        simp only [Option.isSome_none, Bool.false_eq_true, if_false]
        rw [ih { s with inCommand := false, exitCode := some n } hc ha rfl, Bool.false_and,
          belowState_cons_exit s _ false hx he]
        simp
    | none =>
      rw [exitCodes_cons_none _ hx, expLines_cons_none _ hx]
      by_cases hf : isExitCodeForm l = true
      · have : exitCodeOverflows l = true := by simp [exitCodeOverflows, hf, hx]
        simp [this, hf]
      · have hf' : isExitCodeForm l = false := by simpa using hf
        rw [exitCodeOverflows_of_not_form hf']
        by_cases hok : expOk l = true
        · simp only [hok, if_true, Bool.false_eq_true, if_false]
          rw [ih { s with inCommand := false, expectations := s.expectations ++ [l] } hc ha rfl, Bool.false_and,
            belowState_cons_exp s _ false hx]
          simp [hok, hf']
        · simp [hok]

theorem stripPrefix_contLine (x : Line) : stripPrefix ['>', ' '] (contLine x) = some x := by
  simp [contLine, stripPrefix]

theorem conts_cons_iff {x : Line} {ls : List Line} {P : List Line → List Line → Prop} :
    (∃ more after, contLine x :: ls = more.map contLine ++ after ∧ NotCont after ∧ P more after) ↔
    (∃ more after, ls = more.map contLine ++ after ∧ NotCont after ∧ P (x :: more) after) := by
  constructor
  · rintro ⟨more, after, h, hn, hp⟩
    cases more with
    | nil =>
      obtain rfl : after = contLine x :: ls := h.symm
      simp [NotCont, stripPrefix_contLine] at hn
    | cons y more =>
      simp only [List.map_cons, List.cons_append, List.cons.injEq] at h
      obtain rfl : x = y := by simpa [contLine] using h.1
      exact ⟨more, after, h.2, hn, hp⟩
  · rintro ⟨more, after, h, hn, hp⟩
    exact ⟨x :: more, after, by simp [h], hn, hp⟩

theorem conts_none_iff {ls : List Line} (hl : NotCont ls) {P : List Line → List Line → Prop} :
    (∃ more after, ls = more.map contLine ++ after ∧ NotCont after ∧ P more after) ↔ P [] ls := by
  constructor
  · rintro ⟨more, after, h, hn, hp⟩
    cases more with
    | nil => obtain rfl : ls = after := h; exact hp
    | cons y more =>
      subst h
      simp [NotCont, stripPrefix_contLine] at hl
  · exact fun hp => ⟨[], ls, rfl, hl, hp⟩

theorem addAll_cmd (expOk : Line → Bool) : ∀ (code : Numbered) (s s' : LineParser.State Cfg),
    s.command ≠ [] → s.allowMultipleCommands = false → s.inCommand = true →
    (addAll expOk s code = .ok s' ↔
      ∃ more after, code.map (·.2) = more.map contLine ++ after ∧ NotCont after ∧
        (∀ e ∈ expLines after, expOk e = true ∧ isExitCodeForm e = false) ∧
        (match s.exitCode with
          | some _ => exitCodes after = []
          | none => (exitCodes after).length ≤ 1) ∧
        s' = belowState s more after.isEmpty after)
  | [], s, s', _, _, hin => by
    rw [List.map_nil, conts_none_iff (ls := []) trivial]
    have := addAll_below expOk [] s s' ‹_› ‹_› (fun _ => trivial)
    simpa [hin] using this
  | (i, l) :: rest, s, s', hc, ha, hin => by
    cases hp : stripPrefix ['>', ' '] l with
    | some x =>
      obtain rfl : l = contLine x := stripPrefix_eq_some hp
      rw [List.map_cons, conts_cons_iff, addAll, contLine, addBody_cont expOk x i hin hc]
      simp only [addAll_cmd expOk rest { s with command := s.command ++ [x] } s' (by simp) ha hin,
        belowState_cons_cont]
    | none =>
      have hl : NotCont (((i, l) :: rest).map (·.2)) := hp
      rw [conts_none_iff hl, addAll_below expOk _ s s' hc ha (fun _ => hl)]
      simp [hin]

theorem addAll_block_iff (expOk : Line → Bool) (i : Nat) (l : Line) (rest : Numbered) (s s' : LineParser.State Cfg)
    (hc : Clean s) :
    addAll expOk s ((i, l) :: rest) = .ok s' ↔
      ∃ c0 more after, l :: rest.map (·.2) = ('$' :: ' ' :: c0) :: (more.map contLine ++ after) ∧ NotCont after ∧
        (∀ e ∈ expLines after, expOk e = true ∧ isExitCodeForm e = false) ∧ (exitCodes after).length ≤ 1 ∧
        s' = belowState { s with inCommand := true, outputStartIndex := some i, command := [c0] } more
          after.isEmpty after := by
  cases hp : stripPrefix ['$', ' '] l with
  | none =>
    obtain ⟨e, he⟩ := addBody_without_command expOk i hc.cmd hp
    simp only [addAll, he, reduceCtorEq, false_iff, not_exists]
    rintro c0 more after ⟨h, _⟩
    rw [(List.cons.inj h).1] at hp
    simp [stripPrefix] at hp
  | some c0 =>
    obtain rfl : l = '$' :: ' ' :: c0 := stripPrefix_eq_some hp
    rw [addAll, addBody_start_idle expOk c0 i hc.cmd, hc.osi, Option.none_or,
      addAll_cmd expOk rest { s with inCommand := true, outputStartIndex := some i, command := [c0] } s'
        (by simp) hc.amc rfl]
    simp only [hc.code, List.cons.injEq, true_and]
    constructor
    · rintro ⟨more, after, h⟩; exact ⟨c0, more, after, ⟨rfl, h.1⟩, h.2⟩
    · rintro ⟨c0', more, after, ⟨h0, h⟩, h'⟩
      obtain rfl : c0 = c0' := by simpa using h0
      exact ⟨more, after, h, h'⟩

theorem addAll_block (env : Env) (b : Block) (wf : b.WF env) (s : LineParser.State Cfg) (hc : Clean s) (k : Nat) :
    ∃ s', addAll env.expOk s (number k b.code) = .ok s' ∧ s'.command = b.cmd :: b.more ∧
      s'.expectations = b.exps ∧ s'.exitCode = b.exit ∧ s'.outputStartIndex = some k ∧
      s'.testcases = s.testcases ∧ s'.title = s.title ∧ s'.config = s.config ∧
      s'.allowMultipleCommands = false := by
  -- the last clause of `Block.WF` is `NotCont b.after` written out
  obtain ⟨_, _, _, _, _, _, hcodes, hexps, hfirst⟩ := wf
  refine ⟨_, (addAll_block_iff env.expOk k b.cmdLine (number (k + 1) _) s _ hc).mpr
    ⟨b.cmd, b.more, b.after, by rw [number_map_snd]; rfl, hfirst, hexps, hcodes, rfl⟩, ?_⟩
  simp [belowState, hc.exps, hc.code, hc.amc, Block.exps, Block.exit]

/-- the `if` of `stepTok` that reads the inline configuration, on an accepted one -/
theorem cfg_eval (env : Env) (li : Nat) (config : Line) (h3 : cfgAccepted env config) :
    (if (cfgLines li config).isEmpty then (.ok none : Except Err Cfg)
      else if env.testCfgOk (joinNumbered (cfgLines li config)) then .ok (some (joinNumbered (cfgLines li config)))
      else .error .testConfigYaml) = .ok (stripBraces config) := by
  unfold cfgAccepted at h3
  unfold cfgLines
  cases hs : stripBraces config with
  | none => simp
  | some c =>
    rw [hs] at h3
    simp at h3
    simp [joinNumbered, joinNl, h3]

theorem stepTok_block (env : Env) (b : Block) (wf : b.WF env) (st : PState) (hc : Clean st.lp)
    (li k : Nat) (cms : Numbered) :
    ∃ st', stepTok env st (.test b.language (cfgLines li b.config) cms (number k b.code)) = .ok st' ∧
      Clean st'.lp ∧ st'.lp.title = none ∧ st'.titleParagraph = [] ∧ st'.docConfigs = st.docConfigs ∧
      st'.lp.testcases = st.lp.testcases ++
        [{ title := st.lp.title.getD [], command := b.cmd :: b.more, exitCode := b.exit,
           expectations := b.exps, lineNumber := k + 1, config := some (stripBraces b.config) }] := by
  obtain ⟨s', h1, h2, h3, h4, h5, h6, h7, h8, h9⟩ :=
    addAll_block env b wf (st.lp.setConfig (stripBraces b.config)) (hc.setConfig _) k
  -- the block has a last line, and a command: `end_testcase` pushes the test
  obtain ⟨last, hl⟩ : ∃ last, (number k b.code).getLast? = some last :=
    Option.isSome_iff_exists.mp (by simp [List.getLast?_isSome, Block.code, number])
  simp only [stepTok, cfg_eval env li b.config wf.2.2.1, h1, hl, endTestcase_push last.1 (h2 ▸ List.cons_ne_nil _ _)]
  refine ⟨_, rfl, ⟨rfl, rfl, rfl, rfl, ?_⟩, rfl, rfl, rfl, ?_⟩
  · simpa [State.flush] using h9
  · simp [State.flush, State.pending, h2, h3, h4, h5, h6, h7, h8, State.setConfig]

theorem stepTok_noCommand (env : Env) (config : Line) (hcfg : cfgAccepted env config) (st : PState)
    (language : Line) (li : Nat) (cms : Numbered) :
    stepTok env st (.test language (cfgLines li config) cms [])
      = .ok { st with lp := st.lp.setConfig (stripBraces config), titleParagraph := [] } := by
  simp only [stepTok, cfg_eval env li config hcfg, addAll, List.getLast?_nil]

/-- The induction over the items, open at the end: the tokenizer and the parser work through the
rendered items and arrive – with a clean `LineParser`, the front-matter texts, the tests and the
title state of the items – in front of whatever follows (`rest`). -/
theorem parse_items_then (env : Env) :
    ∀ (items : List Item) (cs : Bool), ItemsWF env cs items →
      ∀ (li : Nat) (st : PState), Clean st.lp → ∀ (rest : List Line),
        ∃ st', Clean st'.lp ∧
          st'.docConfigs = st.docConfigs ++ docTexts items ∧
          st'.lp.testcases
            = st.lp.testcases ++ expectedTests env items li st.lp.title st.titleParagraph ∧
          (st'.lp.title, st'.titleParagraph) = titleAfter env items st.lp.title st.titleParagraph ∧
          parseTokens env st (runP env.languages .top cs li (render items ++ rest))
            = parseTokens env st' (runP env.languages .top (csAfterAll cs items) (li + (render items).length) rest) := by
  intro items
  induction items with
  | nil =>
    intro cs _ li st hc rest
    exact ⟨st, hc, (List.append_nil _).symm, (List.append_nil _).symm, rfl, rfl⟩
  | cons it r ih =>
    intro cs hwf li st hc rest
    obtain ⟨hit, hr⟩ := hwf
    have hlen : li + (render (it :: r)).length = li + it.lines.length + (render r).length := by
      simp [render, Nat.add_assoc]
    rw [hlen]
    simp only [render, List.append_assoc, csAfterAll]
    cases it with
    | prose l =>
      obtain ⟨hx, hne⟩ : extractCodeBlockStart l = .ok none ∧ (cs = false → l ≠ frontMatterFence) := hit
      have h1 : (!cs && decide (l = frontMatterFence)) = false := by
        cases cs
        · simp [hne rfl]
        · rfl
      simp only [Item.lines, List.cons_append, List.nil_append, List.length_cons, List.length_nil, Nat.zero_add]
      rw [runP_top_cons]
      simp only [h1, fencePure_of hx, Bool.false_eq_true, if_false, parseTokens, stepTok, expectedTests,
        docTexts, titleAfter, Item.csAfter]
      cases ht : extractTitle env.isLetter l with
      | some x =>
        simp only []
        exact ih _ hr _ { st with titleParagraph := st.titleParagraph ++ [x],
                                  lp := st.lp.setTitle (joinNl (st.titleParagraph ++ [x])) }
          (hc.setTitle _) rest
      | none =>
        simp only []
        exact ih _ hr _ { st with titleParagraph := [] } hc rest
    | front body =>
      obtain ⟨hcs, hb, hok⟩ : cs = false ∧ (∀ x ∈ body, x ≠ frontMatterFence) ∧ env.docCfgOk (joinNl body ++ ['\n']) = true := hit
      subst hcs
      rw [runP_front _ body hb]
      have hl : (Item.front body).lines.length = body.length + 2 := by simp [Item.lines]
      simp only [parseTokens, stepTok, joinNumbered_number, hok, if_true, expectedTests, docTexts, titleAfter,
        Item.csAfter, hl]
      obtain ⟨st', hc', hd2, htc2, htt2, h2⟩ := ih false hr (li + (body.length + 2))
        { st with docConfigs := st.docConfigs ++ [joinNl body] } hc rest
      exact ⟨st', hc', by simp [hd2], htc2, htt2, h2⟩
    | block b =>
      have wf : b.WF env := hit
      simp only [Item.lines]
      rw [runP_block env b wf]
      obtain ⟨st1, h1, hc1, ht1, htp1, hd1, htc1⟩ :=
        stepTok_block env b wf st hc li (li + 1 + b.comments.length) (number (li + 1) b.comments)
      simp only [parseTokens, h1, Item.csAfter]
      obtain ⟨st', hc', hd2, htc2, htt2, h2⟩ := ih true hr (li + b.lines.length) st1 hc1 rest
      refine ⟨st', hc', by rw [hd2, hd1]; simp [docTexts], ?_, ?_, h2⟩
      · rw [htc2, htc1, ht1, htp1]
        simp [expectedTests]
      · rw [htt2, ht1, htp1]
        simp [titleAfter]
    | foreign v =>
      have wf : v.ForeignWF env := hit
      have hlang : v.language.isEmpty = false := by simpa using wf.2.2.1
      simp only [Item.lines]
      rw [runP_foreign env v wf]
      simp only [parseTokens, stepTok, hlang, Bool.false_eq_true, if_false, expectedTests, docTexts, titleAfter,
        Item.csAfter]
      exact ih true hr (li + v.lines.length) st hc rest
    | noCommand v =>
      have wf : v.NoCommandWF env := hit
      simp only [Item.lines]
      rw [runP_noCommand env v wf]
      simp only [parseTokens, stepTok_noCommand env v.config wf.2.2.1, expectedTests, docTexts, titleAfter, Item.csAfter]
      exact ih true hr (li + v.lines.length)
        { st with lp := st.lp.setConfig (stripBraces v.config), titleParagraph := [] }
        (hc.setConfig _) rest

/-! What the document ends in (`Tail`): the tokenizer's inner loop runs out of lines and emits its token
(`Mode.flushTok`); the parser treats that token like the token of the closed construct. -/

/-- any line that starts with the opening fence closes the block, e.g. the fence itself -/
theorem Block.OpenWF.close {env : Env} {b : Block} (wf : b.OpenWF env) : Block.WF env { b with closer := b.bt } := by
  obtain ⟨h1, h2, h3, h4, h5, h6, h7, h8⟩ := wf
  exact ⟨h1, h2, h3, h4, startsWith_self _, h5, h6, h7, h8⟩

theorem stepTok_openBlock (env : Env) (b : Block) (wf : b.OpenWF env) (st : PState) (hc : Clean st.lp)
    (li k : Nat) (cms : Numbered) :
    ∃ st', stepTok env st (.test b.language (cfgLines li b.config) cms (number k b.code)) = .ok st' ∧
      st'.docConfigs = st.docConfigs ∧
      st'.lp.testcases = st.lp.testcases ++
        [{ title := st.lp.title.getD [], command := b.cmd :: b.more, exitCode := b.exit,
           expectations := b.exps, lineNumber := k + 1, config := some (stripBraces b.config) }] := by
  obtain ⟨st', h, _, _, _, hd, ht⟩ := stepTok_block env { b with closer := b.bt } wf.close st hc li k cms
  exact ⟨st', h, hd, ht⟩

theorem parse_tail (env : Env) (tail : Tail) (cs : Bool) (wft : tail.WF env cs) (li : Nat) (st : PState)
    (hc : Clean st.lp) :
    ∃ st', parseTokens env st (runP env.languages .top cs li tail.lines) = .ok st' ∧
      st'.docConfigs = st.docConfigs ++ tail.docTexts ∧
      st'.lp.testcases = st.lp.testcases ++ tailTests tail li st.lp.title := by
  cases tail with
  | none => exact ⟨st, by simp [Tail.lines, runP, Mode.flushTok, parseTokens], by simp [Tail.docTexts], by simp [tailTests]⟩
  | openFront body =>
    obtain ⟨hcs, hb, hok⟩ : cs = false ∧ (∀ x ∈ body, x ≠ frontMatterFence) ∧ env.docCfgOk (joinNl body ++ ['\n']) = true := wft
    subst hcs
    have htok := runP_front_body env.languages body hb li []
    rw [List.append_nil] at htok
    simp only [Tail.lines, htok, runP, Mode.flushTok, parseTokens, stepTok, joinNumbered_number, hok, if_true]
    exact ⟨_, rfl, by simp [Tail.docTexts], by simp [tailTests]⟩
  | openForeign v =>
    obtain ⟨hx, hl, hne, hbody⟩ : v.OpenForeignWF env := wft
    have hlang : v.language.isEmpty = false := by simpa using hne
    have htok := runP_foreign_body env.languages v hx hl hbody cs li []
    rw [List.append_nil] at htok
    simp only [Tail.lines, htok, runP, Mode.flushTok, parseTokens, stepTok, hlang, Bool.false_eq_true, if_false]
    exact ⟨_, rfl, by simp [Tail.docTexts], by simp [tailTests]⟩
  | openNoCommand v =>
    obtain ⟨hx, hl, hcfg, hbody, hcm⟩ : v.OpenNoCommandWF env := wft
    have htok := runP_noCommand_body env.languages v hx hl hbody hcm cs li []
    rw [List.append_nil] at htok
    simp only [Tail.lines, htok, runP, Mode.flushTok, parseTokens, stepTok_noCommand env v.config hcfg]
    exact ⟨_, rfl, by simp [Tail.docTexts], by simp [tailTests, State.setConfig]⟩
  | openBlock b =>
    have wf : b.OpenWF env := wft
    have htok := runP_block_body env.languages b wf.1 wf.2.1 wf.2.2.2.1 wf.2.2.2.2.1 cs li []
    rw [List.append_nil] at htok
    obtain ⟨st', h, hd, ht⟩ :=
      stepTok_openBlock env b wf st hc li (li + 1 + b.comments.length) (number (li + 1) b.comments)
    simp only [Tail.lines, htok, runP, Mode.flushTok, parseTokens, h]
    exact ⟨st', rfl, by simp [hd, Tail.docTexts], by simp [ht, tailTests]⟩

theorem parseLines_render_tail (env : Env) (items : List Item) (tail : Tail) (wf : ItemsWF env false items)
    (wft : tail.WF env (csAfterAll false items)) :
    parseLines env (render items ++ tail.lines)
      = .ok { docConfigs := docTexts items ++ tail.docTexts
              tests := expectedTests env items 0 none []
                ++ tailTests tail (render items).length (titleAfter env items none []).1 } := by
  obtain ⟨st1, hc1, hd1, ht1, htt1, h1⟩ :=
    parse_items_then env items false wf 0 {} ⟨rfl, rfl, rfl, rfl, rfl⟩ tail.lines
  obtain ⟨st', h2, hd2, ht2⟩ := parse_tail env tail _ wft (0 + (render items).length) st1 hc1
  have htitle : st1.lp.title = (titleAfter env items none []).1 := congrArg Prod.fst htt1
  simp only [parseLines, tokenize_eq, h1, h2]
  rw [hd2, ht2, hd1, ht1, htitle]
  simp only [Nat.zero_add]
  rfl

theorem parseLines_render (env : Env) (items : List Item) (hwf : ItemsWF env false items) :
    parseLines env (render items)
      = .ok { docConfigs := docTexts items, tests := expectedTests env items 0 none [] } := by
  simpa [Tail.lines, Tail.docTexts, tailTests] using parseLines_render_tail env items .none hwf trivial

theorem docTexts_append (a b : List Item) : docTexts (a ++ b) = docTexts a ++ docTexts b := by
  induction a with
  | nil => rfl
  | cons it r ih => cases it <;> simp [docTexts, ih]

theorem expectedTests_append (env : Env) (b : List Item) :
    ∀ (a : List Item) (li : Nat) (t : Option Line) (tp : List Line),
      expectedTests env (a ++ b) li t tp
        = expectedTests env a li t tp
          ++ expectedTests env b (li + (render a).length) (titleAfter env a t tp).1 (titleAfter env a t tp).2 := by
  intro a
  induction a with
  | nil => intro li t tp; simp [expectedTests, titleAfter, render]
  | cons it r ih =>
    intro li t tp
    have hlen : li + (render (it :: r)).length = li + it.lines.length + (render r).length := by
      simp [render, Nat.add_assoc]
    rw [hlen]
    cases it with
    | prose l =>
      simp only [List.cons_append, expectedTests, titleAfter, Item.lines, List.length_cons, List.length_nil,
        Nat.zero_add]
      split <;> exact ih _ _ _
    | front body =>
      have hl : (Item.front body).lines.length = body.length + 2 := by simp [Item.lines]
      simp only [List.cons_append, expectedTests, titleAfter, hl]
      exact ih _ _ _
    | foreign v =>
      simp only [List.cons_append, expectedTests, titleAfter, Item.lines]
      exact ih _ _ _
    | noCommand v =>
      simp only [List.cons_append, expectedTests, titleAfter, Item.lines]
      exact ih _ _ _
    | block b =>
      simp only [List.cons_append, expectedTests, titleAfter, Item.lines, ih]

theorem expectedTests_core (env : Env) :
    ∀ (items : List Item) (li : Nat) (t : Option Line) (tp : List Line),
      (expectedTests env items li t tp).map TestCase.core = writtenCores items := by
  intro items
  induction items with
  | nil => intro _ _ _; rfl
  | cons it r ih =>
    intro li t tp
    cases it with
    | prose l =>
      simp only [expectedTests, writtenCores]
      split <;> exact ih _ _ _
    | block b =>
      simp only [expectedTests, writtenCores, List.map_cons, ih]
      rfl
    | front body => simp only [expectedTests, writtenCores]; exact ih _ _ _
    | foreign v => simp only [expectedTests, writtenCores]; exact ih _ _ _
    | noCommand v => simp only [expectedTests, writtenCores]; exact ih _ _ _

theorem writtenCores_insert (pre post : List Item) (x : Item) (hx : x.inert = true) :
    writtenCores (pre ++ x :: post) = writtenCores (pre ++ post) := by
  induction pre with
  | nil => cases x <;> simp_all [writtenCores, Item.inert]
  | cons it r ih => cases it <;> simp [writtenCores, ih]

theorem docTexts_insert (pre post : List Item) (x : Item) (hx : x.inert = true) :
    docTexts (pre ++ x :: post) = docTexts (pre ++ post) := by
  induction pre with
  | nil => cases x <;> simp_all [docTexts, Item.inert]
  | cons it r ih => cases it <;> simp [docTexts, ih]

theorem itemsWF_append (env : Env) (pre post : List Item) :
    ∀ cs, ItemsWF env cs (pre ++ post) ↔ ItemsWF env cs pre ∧ ItemsWF env (csAfterAll cs pre) post := by
  induction pre with
  | nil => intro cs; simp [ItemsWF, csAfterAll]
  | cons it r ih => intro cs; simp [ItemsWF, csAfterAll, ih, and_assoc]

/-- without front-matter, well-formedness survives a later `content_start` -/
theorem itemsWF_mono (env : Env) (items : List Item) (hnf : noFront items = true) :
    ∀ cs cs', (cs = true → cs' = true) → ItemsWF env cs items → ItemsWF env cs' items := by
  induction items with
  | nil => intro _ _ _ _; trivial
  | cons it r ih =>
    intro cs cs' hle hwf
    obtain ⟨hit, hr⟩ := hwf
    cases it with
    | prose l =>
      refine ⟨⟨hit.1, fun h => hit.2 ?_⟩, ih (by simpa [noFront] using hnf) _ _ ?_ hr⟩
      · cases cs
        · rfl
        · simp [hle rfl] at h
      · intro h
        simp only [Item.csAfter, Bool.or_eq_true] at h ⊢
        rcases h with h | h
        · exact Or.inl (hle h)
        · exact Or.inr h
    | front body => simp [noFront] at hnf
    | block b => exact ⟨hit, ih (by simpa [noFront] using hnf) _ _ (fun h => h) hr⟩
    | foreign v => exact ⟨hit, ih (by simpa [noFront] using hnf) _ _ (fun h => h) hr⟩
    | noCommand v => exact ⟨hit, ih (by simpa [noFront] using hnf) _ _ (fun h => h) hr⟩

theorem csAfter_mono (cs : Bool) (x : Item) (hx : x.inert = true) : cs = true → x.csAfter cs = true := by
  intro h
  cases x <;> simp_all [Item.csAfter, Item.inert]

theorem itemsWF_insert (env : Env) (pre post : List Item) (x : Item) (hx : x.inert = true)
    (hnf : noFront post = true) (cs : Bool) (hwf : ItemsWF env cs (pre ++ post))
    (hxwf : x.WF env (csAfterAll cs pre)) : ItemsWF env cs (pre ++ x :: post) := by
  rw [itemsWF_append] at hwf ⊢
  exact ⟨hwf.1, hxwf, itemsWF_mono env post hnf _ _ (csAfter_mono _ x hx) hwf.2⟩

/-! ## one prose line is as good as another

The parser looks at a prose line in two ways only: is it a title line (`extractTitle`), is it blank
(`content_start`).  Two prose lines that agree in both are interchangeable: the whole result
(document configuration, every test with its title and line number) is the same. -/

theorem expectedTests_replace_prose (env : Env) (pre post : List Item) (p q : Line)
    (ht : extractTitle env.isLetter p = extractTitle env.isLetter q) (li : Nat) (t : Option Line) (tp : List Line) :
    expectedTests env (pre ++ .prose p :: post) li t tp = expectedTests env (pre ++ .prose q :: post) li t tp := by
  simp only [expectedTests_append, expectedTests, ht]

theorem itemsWF_replace_prose (env : Env) (pre post : List Item) (p q : Line) (cs : Bool)
    (hb : (trim p).isEmpty = (trim q).isEmpty)
    (hq : Item.WF env (csAfterAll cs pre) (.prose q))
    (hwf : ItemsWF env cs (pre ++ .prose p :: post)) : ItemsWF env cs (pre ++ .prose q :: post) := by
  rw [itemsWF_append] at hwf ⊢
  refine ⟨hwf.1, hq, ?_⟩
  have := hwf.2.2
  simpa only [Item.csAfter, hb] using this

theorem replace_prose (env : Env) (pre post : List Item) (p q : Line)
    (ht : extractTitle env.isLetter p = extractTitle env.isLetter q)
    (hb : (trim p).isEmpty = (trim q).isEmpty)
    (hq : Item.WF env (csAfterAll false pre) (.prose q))
    (hwf : ItemsWF env false (pre ++ .prose p :: post)) :
    parseLines env (render (pre ++ .prose q :: post)) = parseLines env (render (pre ++ .prose p :: post)) := by
  rw [parseLines_render env _ hwf,
    parseLines_render env _ (itemsWF_replace_prose env pre post p q false hb hq hwf),
    docTexts_insert pre post (.prose q) rfl, docTexts_insert pre post (.prose p) rfl,
    expectedTests_replace_prose env pre post p q ht]

theorem trimEnd_cons_nonwhite (c : Char) (t : Line) (hc : isWhite c = false) :
    ∃ t', trimEnd (c :: t) = c :: t' := by
  unfold trimEnd
  rw [List.reverse_cons, List.dropWhile_append]
  split
  · refine ⟨[], ?_⟩
    simp [List.dropWhile, hc]
  · refine ⟨(List.dropWhile isWhite t.reverse).reverse, ?_⟩
    simp

theorem inline_span_no_title (env : Env) (hl : env.isLetter '`' = false) (n : Nat) (hn : 1 ≤ n) (x : Line) :
    extractTitle env.isLetter (List.replicate n '`' ++ x) = none ∧
    (trim (List.replicate n '`' ++ x)).isEmpty = false := by
  obtain ⟨m, rfl⟩ : ∃ m, n = m + 1 := ⟨n - 1, by omega⟩
  have e : List.replicate (m + 1) '`' ++ x = '`' :: (List.replicate m '`' ++ x) := by simp [List.replicate_succ]
  have hw : isWhite '`' = false := by decide +kernel
  have h1 : trimStart ('`' :: (List.replicate m '`' ++ x)) = '`' :: (List.replicate m '`' ++ x) := by
    simp [trimStart, List.dropWhile, hw]
  obtain ⟨t', h2⟩ := trimEnd_cons_nonwhite '`' (List.replicate m '`' ++ x) hw
  have h3 : trim (List.replicate (m + 1) '`' ++ x) = '`' :: t' := by rw [e]; unfold trim; rw [h1, h2]
  refine ⟨?_, by rw [h3]; rfl⟩
  unfold extractTitle
  simp only [h3, hl, Bool.false_eq_true, if_false]
  rfl

theorem expectedTests_lines (env : Env) :
    ∀ (items : List Item) (li : Nat) (t : Option Line) (tp : List Line),
      ∀ x ∈ expectedTests env items li t tp, ∃ k, x.lineNumber = li + k + 1 ∧
        (render items)[k]? = some ('$' :: ' ' :: (x.command.headD [])) := by
  intro items
  induction items with
  | nil => intro _ _ _ x hx; cases hx
  | cons it r ih =>
    intro li t tp x hx
    -- an item that yields no test: skip its lines
    have skip : ∀ (t' : Option Line) (tp' : List Line), x ∈ expectedTests env r (li + it.lines.length) t' tp' →
        ∃ k, x.lineNumber = li + k + 1 ∧ (render (it :: r))[k]? = some ('$' :: ' ' :: (x.command.headD [])) := by
      intro t' tp' h
      obtain ⟨k, hk, h2⟩ := ih _ _ _ x h
      refine ⟨it.lines.length + k, by omega, ?_⟩
      rw [render, List.getElem?_append_right (by omega), Nat.add_sub_cancel_left]
      exact h2
    cases it with
    | prose l =>
      simp only [expectedTests] at hx
      have : ∃ t' tp', x ∈ expectedTests env r (li + 1) t' tp' := by
        split at hx <;> exact ⟨_, _, hx⟩
      obtain ⟨t', tp', h⟩ := this
      exact skip t' tp' (by simpa [Item.lines] using h)
    | front body =>
      simp only [expectedTests] at hx
      exact skip _ _ (by simpa [Item.lines] using hx)
    | foreign v =>
      simp only [expectedTests] at hx
      exact skip _ _ (by simpa [Item.lines] using hx)
    | noCommand v =>
      simp only [expectedTests] at hx
      exact skip _ _ (by simpa [Item.lines] using hx)
    | block b =>
      simp only [expectedTests, List.mem_cons] at hx
      rcases hx with rfl | h
      · refine ⟨b.comments.length + 1, by simp only []; omega, ?_⟩
        simp [render, Item.lines, Block.lines, Block.body, Block.code, Block.cmdLine]
      · exact skip _ _ (by simpa [Item.lines] using h)

end Scrut.Markdown
