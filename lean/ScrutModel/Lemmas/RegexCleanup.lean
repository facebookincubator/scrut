import ScrutModel.Model.RegexCleanup
/-! What is true of the clean-up passes: expressions that contain none of the characters the passes
exist for are left exactly as written. -/
namespace Scrut.RegexCleanup

/-- every backslash is followed by a character after which pass 1 keeps it (or is the last character) -/
def okPairs : List Char → Bool
  | x :: y :: r => (x != '\\' || recognized y) && okPairs (y :: r)
  | _ => true

/-- no `<<<<` anywhere (the marker pass 2 uses internally) -/
def noQuad : List Char → Bool
  | [] => true
  | c :: rest => !(c == '<' && rest.take 3 == ['<', '<', '<']) && noQuad rest

/-- the expressions the clean-up passes have no business with -/
def plain (e : List Char) : Bool :=
  !e.contains '{' && !e.contains '}' && !e.contains '[' && !e.contains ']' && okPairs e && noQuad e

theorem okPairs_tail {c : Char} {rest : List Char} (h : okPairs (c :: rest) = true) : okPairs rest = true := by
  cases rest with
  | nil => rfl
  | cons y r => simp only [okPairs, Bool.and_eq_true] at h; exact h.2

theorem escPass_id (l : List Char) :
    (okPairs l = true → escPass l false = l) ∧ (okPairs ('\\' :: l) = true → escPass l true = '\\' :: l) := by
  induction l with
  | nil => exact ⟨fun _ => rfl, fun _ => rfl⟩
  | cons c rest ih =>
    constructor
    · intro h
      by_cases hc : c = '\\'
      · subst hc
        simp only [escPass, if_true]
        exact ih.2 h
      · simp only [escPass, if_neg hc, ih.1 (okPairs_tail h)]
    · intro h
      simp only [okPairs, Bool.and_eq_true, Bool.or_eq_true] at h
      have hr : recognized c = true := by
        rcases h.1 with h1 | h1
        · simp at h1
        · exact h1
      simp only [escPass, hr, if_true, ih.1 (okPairs_tail h.2)]

theorem protect_id (l : List Char) (h : '{' ∉ l) : protect l 0 = l := by
  induction l with
  | nil => rfl
  | cons c rest ih =>
    have hc : c ≠ '{' := fun e => h (by simp [e])
    have hr : '{' ∉ rest := fun e => h (by simp [e])
    simp only [protect, if_neg hc, ih hr]

theorem braceEsc_id (l : List Char) (h1 : '{' ∉ l) (h2 : '}' ∉ l) : ∀ b, braceEsc l b = l := by
  induction l with
  | nil => intro b; cases b <;> rfl
  | cons c rest ih =>
    have hc1 : c ≠ '{' := fun e => h1 (by simp [e])
    have hc2 : c ≠ '}' := fun e => h2 (by simp [e])
    have hr1 : '{' ∉ rest := fun e => h1 (by simp [e])
    have hr2 : '}' ∉ rest := fun e => h2 (by simp [e])
    intro b
    cases b with
    | true => simp only [braceEsc, ih hr1 hr2]
    | false =>
      by_cases hb : c = '\\'
      · simp only [braceEsc, if_pos hb, ih hr1 hr2]
      · have : ¬ (c = '{' ∨ c = '}') := by simp [hc1, hc2]
        simp only [braceEsc, if_neg hb, if_neg this, ih hr1 hr2]

theorem restore_id (l : List Char) (h : noQuad l = true) : restore l 0 = l := by
  induction l with
  | nil => rfl
  | cons c rest ih =>
    simp only [noQuad, Bool.and_eq_true, Bool.not_eq_true', Bool.and_eq_false_iff] at h
    have hq : ¬ (c = '<' ∧ rest.take 3 = ['<', '<', '<']) := by
      rintro ⟨h1, h2⟩
      rcases h.1 with h3 | h3
      · simp [h1] at h3
      · simp [h2] at h3
    simp only [restore, if_neg hq, ih h.2]

theorem ccPass_id (l : List Char) (h1 : '[' ∉ l) (h2 : ']' ∉ l) (i : Bool) : ∀ b, ccPass l i b = l := by
  induction l with
  | nil => intro b; cases b <;> rfl
  | cons c rest ih =>
    have hc1 : c ≠ '[' := fun e => h1 (by simp [e])
    have hc2 : c ≠ ']' := fun e => h2 (by simp [e])
    have hr1 : '[' ∉ rest := fun e => h1 (by simp [e])
    have hr2 : ']' ∉ rest := fun e => h2 (by simp [e])
    intro b
    cases b with
    | true => simp only [ccPass, ih hr1 hr2]
    | false =>
      by_cases hb : c = '\\'
      · simp only [ccPass, if_pos hb, ih hr1 hr2]
      · simp only [ccPass, if_neg hb, if_neg hc1, if_neg hc2, ih hr1 hr2]

end Scrut.RegexCleanup
