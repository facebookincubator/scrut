import ScrutModel.Lemmas.EscapingGuard
import ScrutModel.Model.Generate
/-!
# Escaped text as a sequence of pieces (for C09)

The rewrites of `generate_expectation_line` (a blank to `\x20`, the first character to its `\xHH`
form) exchange one piece (`EscLemmas.Rep`) for another that stands for the same bytes. Here: the one
piece sequence that only the generator writes, `text.replace('\\', "\\\\")`.
-/
namespace Scrut.GenLemmas
open Scrut.Utf8 Scrut.Esc Scrut.EscF Scrut.Rules Scrut.EscLemmas

theorem rep_doubleBackslash (t : List Char) (hlf : NoLF (utf8 t)) :
    Rep (Grammar.doubleBackslash t) (utf8 t) := by
  unfold Grammar.doubleBackslash utf8
  apply Rep.flatMap
  intro c hc
  have hlf' : NoLF (String.utf8EncodeChar c) := fun b hb => hlf b (mem_utf8 hc b hb)
  by_cases hb : c = '\\'
  · subst hb
    simp only [if_true, utf8EncodeChar_backslash]
    exact Rep.single backslashPiece
  · simp only [hb, if_false]
    exact Rep.single (charPiece hb hlf')

end Scrut.GenLemmas
