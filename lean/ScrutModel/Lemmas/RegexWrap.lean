import ScrutModel.Model.RegexWrap
/-! Whole-line anchoring of the regex wrap, and correctness of the executable matcher. -/
namespace Scrut.Regex

theorem Matches.bounds {r s i j} (h : Matches r s i j) : i ≤ j ∧ j ≤ s.length := by
  induction h with
  | chr h | any h _ =>
    have := (List.getElem?_eq_some_iff.1 h).1
    omega
  | _ => omega

theorem search_wrap_iff (e : RE) (s : List Char) :
    searchMatch (wrap e) s ↔ Matches e s 0 s.length := by
  constructor
  · rintro ⟨i, j, h⟩
    unfold wrap at h
    cases h with
    | seq h1 h2 =>
      cases h1
      cases h2 with
      | seq h3 h4 =>
        cases h4
        cases h3 with
        | group h5 => exact h5
  · intro h
    exact ⟨0, s.length, .seq .bol (.seq (.group h) .eol)⟩

theorem search_oldWrap_alt (a b : RE) (s : List Char)
    (ha : bolFirst a = .seq .bol a) (hb : eolLast b = .seq b .eol) :
    searchMatch (oldWrap (.alt a b)) s ↔ (∃ j, Matches a s 0 j) ∨ (∃ i, Matches b s i s.length) := by
  have : oldWrap (.alt a b) = .alt (.seq .bol a) (.seq b .eol) := by
    simp [oldWrap, bolFirst, eolLast, ha, hb]
  rw [this]
  constructor
  · rintro ⟨i, j, h⟩
    cases h with
    | altL h =>
      cases h with
      | seq h1 h2 => cases h1; exact Or.inl ⟨j, h2⟩
    | altR h =>
      cases h with
      | seq h1 h2 => cases h2; exact Or.inr ⟨i, h1⟩
  · rintro (⟨j, h⟩ | ⟨i, h⟩)
    · exact ⟨0, j, .altL (.seq .bol h)⟩
    · exact ⟨i, s.length, .altR (.seq h .eol)⟩

theorem oldWrap_witness :
    searchMatch (oldWrap (.alt (.chr 'a') (.chr 'b'))) ['a', 'x', 'x', 'x'] ∧
    ¬ Matches (.alt (.chr 'a') (.chr 'b')) ['a', 'x', 'x', 'x'] 0 4 ∧
    ¬ searchMatch (wrap (.alt (.chr 'a') (.chr 'b'))) ['a', 'x', 'x', 'x'] := by
  have hno : ¬ Matches (.alt (.chr 'a') (.chr 'b')) ['a', 'x', 'x', 'x'] 0 4 := by
    intro h
    have hlen : ∀ c i j, Matches (.chr c) ['a', 'x', 'x', 'x'] i j → j = i + 1 := by
      intro c i j h; cases h; rfl
    cases h with
    | altL h => have := hlen _ _ _ h; omega
    | altR h => have := hlen _ _ _ h; omega
  refine ⟨?_, hno, ?_⟩
  · exact ⟨0, 1, .altL (.seq .bol (.chr rfl))⟩
  · intro h
    exact hno ((search_wrap_iff _ _).1 h)

theorem star_progress {a s i j} (h : Matches (.star a) s i j) :
    i = j ∨ ∃ k, i < k ∧ Matches a s i k ∧ Matches (.star a) s k j := by
  generalize hr : RE.star a = r at h
  induction h with
  | starNil _ => exact Or.inl rfl
  | @starStep a' s i k j h1 h2 _ ih2 =>
    cases hr
    have hb := h1.bounds
    by_cases hik : i < k
    · exact Or.inr ⟨k, hik, h1, h2⟩
    · have : i = k := by omega
      subst this
      exact ih2 rfl
  | _ => cases hr

theorem any_range_iff (n : Nat) (p : Nat → Bool) :
    (List.range n).any p = true ↔ ∃ k, k < n ∧ p k = true := by
  simp [List.any_eq_true, List.mem_range]

theorem starB_sound {a : RE} {s : List Char} {f : Nat → Nat → Bool}
    (hf : ∀ i k, f i k = true → Matches a s i k) :
    ∀ n i j, j ≤ s.length → starB f n i j = true → Matches (.star a) s i j := by
  intro n
  induction n with
  | zero =>
    intro i j hj h
    simp [starB] at h
    subst h
    exact .starNil hj
  | succ n ih =>
    intro i j hj h
    simp only [starB, Bool.or_eq_true, beq_iff_eq, any_range_iff, Bool.and_eq_true, decide_eq_true_eq] at h
    rcases h with h | ⟨k, hk, ⟨hik, hfk⟩, hrest⟩
    · subst h; exact .starNil hj
    · exact .starStep (hf _ _ hfk) (ih k j hj hrest)

theorem starB_complete {a : RE} {s : List Char} {f : Nat → Nat → Bool}
    (hf : ∀ i k, Matches a s i k → f i k = true) :
    ∀ n i j, j - i ≤ n → Matches (.star a) s i j → starB f n i j = true := by
  intro n
  induction n with
  | zero =>
    intro i j hn h
    have := h.bounds
    simp [starB]
    omega
  | succ n ih =>
    intro i j hn h
    simp only [starB, Bool.or_eq_true, beq_iff_eq, any_range_iff, Bool.and_eq_true, decide_eq_true_eq]
    rcases star_progress h with h0 | ⟨k, hik, h1, h2⟩
    · exact Or.inl h0
    · have hb := h2.bounds
      exact Or.inr ⟨k, by omega, ⟨hik, hf _ _ h1⟩, ih k j (by omega) h2⟩

theorem matchB_iff (r : RE) (s : List Char) : ∀ i j, matchB r s i j = true ↔ Matches r s i j := by
  induction r with
  | chr c =>
    intro i j
    simp only [matchB, Bool.and_eq_true, beq_iff_eq]
    exact ⟨fun ⟨hj, h⟩ => hj ▸ .chr h, fun h => by cases h with | chr h => exact ⟨rfl, h⟩⟩
  | any =>
    intro i j
    simp only [matchB, Bool.and_eq_true, beq_iff_eq]
    constructor
    · rintro ⟨rfl, h⟩
      cases hs : s[i]? with
      | none => simp [hs] at h
      | some c => exact .any hs (by simpa [hs] using h)
    · intro h
      cases h with | any h hc => exact ⟨rfl, by simp [h, hc]⟩
  | eps =>
    intro i j
    simp only [matchB, Bool.and_eq_true, beq_iff_eq, decide_eq_true_eq]
    exact ⟨fun ⟨hj, h⟩ => hj ▸ .eps h, fun h => by cases h with | eps h => exact ⟨rfl, h⟩⟩
  | seq a b iha ihb =>
    intro i j
    simp only [matchB, any_range_iff, Bool.and_eq_true, iha, ihb]
    constructor
    · rintro ⟨k, _, h1, h2⟩; exact .seq h1 h2
    · intro h
      cases h with
      | seq h1 h2 => exact ⟨_, by have := h2.bounds; omega, h1, h2⟩
  | alt a b iha ihb =>
    intro i j
    simp only [matchB, Bool.or_eq_true, iha, ihb]
    constructor
    · exact fun h => h.elim .altL .altR
    · intro h
      cases h with
      | altL h => exact .inl h
      | altR h => exact .inr h
  | star a iha =>
    intro i j
    simp only [matchB, Bool.and_eq_true, decide_eq_true_eq]
    constructor
    · rintro ⟨⟨hij, hj⟩, h⟩
      exact starB_sound (fun i k => (iha i k).1) _ i j hj h
    · intro h
      exact ⟨h.bounds, starB_complete (fun i k => (iha i k).2) _ i j (Nat.le_refl _) h⟩
  | group a iha =>
    intro i j
    simp only [matchB, iha]
    exact ⟨.group, fun h => by cases h with | group h => exact h⟩
  | bol =>
    intro i j
    simp only [matchB, Bool.and_eq_true, beq_iff_eq]
    exact ⟨fun ⟨hi, hj⟩ => by subst hi hj; exact .bol, fun h => by cases h; exact ⟨rfl, rfl⟩⟩
  | eol =>
    intro i j
    simp only [matchB, Bool.and_eq_true, beq_iff_eq]
    exact ⟨fun ⟨hi, hj⟩ => by subst hi hj; exact .eol, fun h => by cases h; exact ⟨rfl, rfl⟩⟩

theorem searchB_iff (r : RE) (s : List Char) : searchB r s = true ↔ searchMatch r s := by
  simp only [searchB, any_range_iff, matchB_iff, searchMatch]
  constructor
  · rintro ⟨i, _, j, _, h⟩; exact ⟨i, j, h⟩
  · rintro ⟨i, j, h⟩
    have := h.bounds
    exact ⟨i, by omega, j, by omega, h⟩

theorem regexRuleMatches_iff (e : RE) (line : List Char) :
    regexRuleMatches e line = true ↔
      Matches e (Glob.trimNewlines line) 0 (Glob.trimNewlines line).length := by
  unfold regexRuleMatches
  rw [searchB_iff, search_wrap_iff]

end Scrut.Regex
