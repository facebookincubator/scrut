import ScrutModel.Lemmas.Glob
/-! The Cram-compat glob and the plain glob agree on backslash-free patterns (on newline-free text). -/
namespace Scrut.Glob

/-- the token a character stands for when no escape is involved -/
def tokOf (c : Char) : Tok := if c = '*' then .many else if c = '?' then .one else .lit c

theorem cramTok_no_backslash (p : List Char) (h : '\\' ∉ p) : cramTok p false = p.map tokOf := by
  induction p with
  | nil => rfl
  | cons c rest ih =>
    have hc : c ≠ '\\' := fun e => h (by simp [e])
    have hr : '\\' ∉ rest := fun e => h (by simp [e])
    simp only [cramTok, if_neg hc, List.map_cons, tokOf, ih hr]
    by_cases h1 : c = '*'
    · simp [h1]
    · by_cases h2 : c = '?'
      · simp [h2]
      · simp [h1, h2]

theorem anySuffixNoNl_eq_anySuffix {f g : List Char → Bool} :
    ∀ s : List Char, '\n' ∉ s → (∀ t, '\n' ∉ t → f t = g t) → anySuffixNoNl f s = anySuffix g s := by
  intro s
  induction s with
  | nil => intro h hfg; simp only [anySuffixNoNl, anySuffix]; exact hfg [] (by simp)
  | cons c s ih =>
    intro h hfg
    have hc : c ≠ '\n' := fun e => h (by simp [e])
    have hs : '\n' ∉ s := fun e => h (by simp [e])
    have hb : (c != '\n') = true := by simpa using hc
    simp only [anySuffixNoNl, anySuffix, hfg (c :: s) h, ih hs hfg, hb, Bool.true_and]

theorem tokGo_map_eq_globGo (p : List Char) : ∀ s : List Char, '\n' ∉ s →
    tokGo (p.map tokOf) s = globGo p s := by
  induction p with
  | nil => intro s _; rfl
  | cons c p ih =>
    intro s hs
    by_cases h1 : c = '*'
    · subst h1
      simp only [List.map_cons, tokOf, if_true, tokGo, globGo]
      exact anySuffixNoNl_eq_anySuffix s hs ih
    · by_cases h2 : c = '?'
      · subst h2
        have : tokOf '?' = .one := by simp [tokOf]
        cases s with
        | nil => simp [this, tokGo, globGo]
        | cons d s =>
          have hd : d ≠ '\n' := fun e => hs (by simp [e])
          have hs' : '\n' ∉ s := fun e => hs (by simp [e])
          have hb : (d != '\n') = true := by simpa using hd
          simp [this, tokGo, globGo, hb, ih s hs']
      · have : tokOf c = .lit c := by simp [tokOf, h1, h2]
        cases s with
        | nil => simp [this, tokGo, globGo, h1]
        | cons d s =>
          have hs' : '\n' ∉ s := fun e => hs (by simp [e])
          have hbeq : (c == d) = decide (c = d) := by
            by_cases hcd : c = d <;> simp [hcd]
          simp [this, tokGo, globGo, h1, h2, ih s hs', hbeq]

theorem globGo_simplify (p s : List Char) : globGo (simplify p) s = globGo p s := by
  rw [Bool.eq_iff_iff, globGo_iff, globGo_iff, simplify_rel]

theorem cramMatch_eq_globMatch (p s : List Char) (hp : '\\' ∉ p) (hs : '\n' ∉ s) :
    cramMatch p s = globMatch p s := by
  unfold cramMatch cramTokens globMatch
  rw [cramTok_no_backslash p hp, tokGo_map_eq_globGo p s hs, globGo_simplify]

end Scrut.Glob
