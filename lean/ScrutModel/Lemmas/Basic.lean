/-!
# Shared by the lemma files

Equality of `Except` values is decidable, so that a concrete run of a model function with an `Except`
result can be compared with its expected value by kernel evaluation (`decide +kernel`).  Then list facts
that mention no definition of the model: trailing elements, runs (`span_eq`), `ite_ind`, and the pointwise
relation `Pairs` of two lists with what `mapM` gives in its terms.
-/
deriving instance DecidableEq for Except

namespace Scrut

/-- dropping the trailing copies of `a` changes nothing when the last element is another one -/
theorem reverse_dropWhile_of_getLast {α : Type} [BEq α] [LawfulBEq α] (a : α) (l : List α)
    (h : l.getLast? ≠ some a) : (l.reverse.dropWhile (· == a)).reverse = l := by
  rw [List.getLast?_eq_head?_reverse] at h
  cases hr : l.reverse with
  | nil => rw [List.reverse_eq_nil_iff.mp hr]; rfl
  | cons x r =>
    rw [hr, List.head?_cons] at h
    have hx : (x == a) = false := by simpa using h
    rw [List.dropWhile_cons, hx, ← hr]
    exact List.reverse_reverse l

/-- `takeWhile`/`dropWhile` on a run of `p` followed by a text that does not start with `p` -/
theorem span_eq {α : Type} {p : α → Bool} {d a : List α} (hd : d.all p = true)
    (ha : ∀ x ∈ a.head?, p x = false) :
    (d ++ a).takeWhile p = d ∧ (d ++ a).dropWhile p = a := by
  have hd' := List.all_eq_true.mp hd
  rw [List.takeWhile_append_of_pos hd', List.dropWhile_append_of_pos hd']
  cases a with
  | nil => simp
  | cons x a' =>
    have hx : ¬ p x = true := by simp [ha x rfl]
    rw [List.takeWhile_cons_of_neg hx, List.dropWhile_cons_of_neg hx, List.append_nil]
    exact ⟨rfl, rfl⟩

theorem span_exists {α : Type} (p : α → Bool) (l : List α) :
    ∃ d a, l = d ++ a ∧ d.all p = true ∧ ∀ x ∈ a.head?, p x = false := by
  refine ⟨l.takeWhile p, l.dropWhile p, List.takeWhile_append_dropWhile.symm, List.all_takeWhile, ?_⟩
  intro x hx
  have := List.head?_dropWhile_not p l
  rwa [Option.mem_def.mp hx] at this

/-- a property of both branches is a property of the `if`; on a chain of `if`s over character literals this
is far cheaper to check than `split` -/
theorem ite_ind {α : Sort _} {P : α → Prop} {p : Prop} [Decidable p] {a b : α}
    (ha : p → P a) (hb : ¬p → P b) : P (if p then a else b) := by
  split
  · exact ha ‹_›
  · exact hb ‹_›

/-- two lists related element by element (same length, same order); core Lean has no `List.Forall₂` -/
inductive Pairs {α β : Type} (R : α → β → Prop) : List α → List β → Prop where
  | nil : Pairs R [] []
  | cons {a : α} {b : β} {as : List α} {bs : List β} : R a b → Pairs R as bs → Pairs R (a :: as) (b :: bs)

section
variable {α β : Type} {R : α → β → Prop}

theorem pairs_append {a : List α} {b : List β} {c : List α} {d : List β} (h : Pairs R a b) (h' : Pairs R c d) :
    Pairs R (a ++ c) (b ++ d) := by
  induction h with
  | nil => exact h'
  | cons h1 _ ih => exact .cons h1 ih

theorem Pairs.length_eq {a : List α} {b : List β} (h : Pairs R a b) : a.length = b.length := by
  induction h with
  | nil => rfl
  | cons _ _ ih => simp [ih]

/-- from an element of the left list to its partner on the right -/
theorem Pairs.get {a : List α} {b : List β} (h : Pairs R a b) :
    ∀ (i : Nat) (x : α), a[i]? = some x → ∃ y, b[i]? = some y ∧ R x y := by
  induction h with
  | nil => intro i x hx; cases hx
  | cons h1 _ ih =>
    intro i x hx
    cases i with
    | zero => exact ⟨_, rfl, Option.some.inj hx ▸ h1⟩
    | succ i => exact ih i x hx

/-- … and from the right list to the left -/
theorem Pairs.get' {a : List α} {b : List β} (h : Pairs R a b) :
    ∀ (i : Nat) (y : β), b[i]? = some y → ∃ x, a[i]? = some x ∧ R x y := by
  induction h with
  | nil => intro i y hy; cases hy
  | cons h1 _ ih =>
    intro i y hy
    cases i with
    | zero => exact ⟨_, rfl, Option.some.inj hy ▸ h1⟩
    | succ i => exact ih i y hy

theorem Pairs.mono {S : α → β → Prop} {a : List α} {b : List β} (h : Pairs R a b)
    (hRS : ∀ x ∈ a, ∀ y, R x y → S x y) : Pairs S a b := by
  induction h with
  | nil => exact .nil
  | cons h1 _ ih => exact .cons (hRS _ (by simp) _ h1) (ih (fun x hx => hRS x (by simp [hx])))

theorem pairs_of_forall : ∀ (l : List α), (∀ a ∈ l, ∃ b, R a b) → ∃ r, Pairs R l r
  | [], _ => ⟨[], .nil⟩
  | a :: l, h => by
    obtain ⟨b, hb⟩ := h a (by simp)
    obtain ⟨r, hr⟩ := pairs_of_forall l (fun x hx => h x (by simp [hx]))
    exact ⟨b :: r, .cons hb hr⟩

end

theorem Pairs.map_eq {α β γ : Type} {R : α → β → Prop} {f : α → γ} {g : β → γ} (hR : ∀ a b, R a b → f a = g b) :
    ∀ {a : List α} {b : List β}, Pairs R a b → a.map f = b.map g := by
  intro a b h
  induction h with
  | nil => rfl
  | cons h1 _ ih => simp [hR _ _ h1, ih]

/-- lists related to a common list element by element, through a chain of two relations -/
theorem Pairs.exists_chain {α β γ : Type} {A : α → β → Prop} {B : β → γ → Prop} {C : α → γ → Prop}
    {l : List α} {bs : List β} (h : Pairs A l bs) (hf : ∀ a ∈ l, ∀ b, A a b → ∃ c, B b c ∧ C a c) :
    ∃ cs, Pairs B bs cs ∧ Pairs C l cs := by
  induction h with
  | nil => exact ⟨[], .nil, .nil⟩
  | cons h1 _ ih =>
    obtain ⟨c, hb, hc⟩ := hf _ (by simp) _ h1
    obtain ⟨cs, g1, g2⟩ := ih (fun a ha => hf a (by simp [ha]))
    exact ⟨c :: cs, .cons hb g1, .cons hc g2⟩

/-- `mapM` in `Option`, element by element -/
theorem mapM_option_pairs {α β : Type} (f : α → Option β) :
    ∀ (l : List α) (r : List β), l.mapM f = some r → Pairs (fun a b => f a = some b) l r
  | [], r, h => by simp at h; subst h; exact .nil
  | a :: l, r, h => by
    rw [List.mapM_cons] at h
    cases ha : f a with
    | none => simp [ha] at h
    | some b =>
      cases hl : l.mapM f with
      | none => simp [ha, hl] at h
      | some bs =>
        simp [ha, hl] at h
        subst h
        exact .cons ha (mapM_option_pairs f l bs hl)

theorem pairs_mapM_option {α β : Type} (f : α → Option β) :
    ∀ {l : List α} {r : List β}, Pairs (fun a b => f a = some b) l r → l.mapM f = some r := by
  intro l r h
  induction h with
  | nil => rfl
  | cons h1 _ ih => rw [List.mapM_cons, h1, ih]; rfl

theorem mapM_option_total {α β : Type} (f : α → Option β) (l : List α) (h : ∀ a ∈ l, ∃ b, f a = some b) :
    ∃ r, l.mapM f = some r :=
  let ⟨r, hr⟩ := pairs_of_forall (R := fun a b => f a = some b) l h
  ⟨r, pairs_mapM_option f hr⟩

/-- `mapM` in `Except`, element by element -/
theorem mapM_except_pairs {ε α β : Type} (f : α → Except ε β) :
    ∀ (l : List α) (r : List β), l.mapM f = .ok r → Pairs (fun a b => f a = .ok b) l r
  | [], r, h => by
    simp only [List.mapM_nil] at h
    cases h
    exact .nil
  | a :: l, r, h => by
    rw [List.mapM_cons] at h
    cases ha : f a with
    | error e => rw [ha] at h; cases h
    | ok b =>
      cases hl : l.mapM f with
      | error e => rw [ha, hl] at h; cases h
      | ok bs =>
        rw [ha, hl] at h
        cases h
        exact .cons ha (mapM_except_pairs f l bs hl)

theorem pairs_mapM_except {ε α β : Type} (f : α → Except ε β) {l : List α} {r : List β}
    (h : Pairs (fun a b => f a = .ok b) l r) : l.mapM f = .ok r := by
  induction h with
  | nil => rfl
  | cons h1 _ ih => rw [List.mapM_cons, h1, ih]; rfl

/-- the first element with `p` splits the list; `none`: there is none -/
theorem exists_split_first {α : Type} (p : α → Bool) (l : List α) :
    ∃ (a : List α) (c : Option α) (r : List α), l = a ++ (c.toList ++ r) ∧ (∀ x ∈ a, p x = false) ∧
      match c with
      | some c => p c = true
      | none => r = [] := by
  induction l with
  | nil => exact ⟨[], none, [], rfl, nofun, rfl⟩
  | cons x xs ih =>
    cases hx : p x with
    | true => exact ⟨[], some x, xs, rfl, nofun, hx⟩
    | false =>
      obtain ⟨a, c, r, rfl, ha, hc⟩ := ih
      exact ⟨x :: a, c, r, rfl, List.forall_mem_cons.mpr ⟨hx, ha⟩, hc⟩

theorem any_getD_nil {α : Type _} (d : Option (List α)) (f : α → Bool) :
    (d.getD []).any f = true ↔ ∃ os, d = some os ∧ ∃ o ∈ os, f o = true := by
  cases d <;> simp

theorem intercalate_cons_cons {α : Type} (sep a b : List α) (l : List (List α)) :
    sep.intercalate (a :: b :: l) = a ++ sep ++ sep.intercalate (b :: l) := by
  simp [List.intercalate, List.intersperse]

theorem intercalate_append {α : Type} (sep : List α) : ∀ (l1 l2 : List (List α)), l1 ≠ [] → l2 ≠ [] →
    sep.intercalate (l1 ++ l2) = sep.intercalate l1 ++ sep ++ sep.intercalate l2 := by
  intro l1
  induction l1 with
  | nil => intro l2 h; exact absurd rfl h
  | cons a t ih =>
    intro l2 _ h2
    cases t with
    | nil =>
      cases l2 with
      | nil => exact absurd rfl h2
      | cons b l => simp [List.intercalate, List.intersperse]
    | cons b t =>
      rw [List.cons_append, List.cons_append, intercalate_cons_cons, ← List.cons_append,
        ih l2 (by simp) h2, intercalate_cons_cons]
      simp [List.append_assoc]

theorem intercalate_around {α : Type} (s : α) (A M B : List (List α)) (hM : M ≠ []) :
    ∃ head tail : List α, [s].intercalate (A ++ M ++ B) = head ++ [s].intercalate M ++ tail ∧
      (head = [] ∨ head.getLast? = some s) ∧ (tail = [] ∨ tail.head? = some s) := by
  have hB : ∃ tail : List α, [s].intercalate (M ++ B) = [s].intercalate M ++ tail ∧
      (tail = [] ∨ tail.head? = some s) := by
    by_cases hb : B = []
    · exact ⟨[], by simp [hb], Or.inl rfl⟩
    · exact ⟨[s] ++ [s].intercalate B, by rw [intercalate_append _ _ _ hM hb, List.append_assoc], Or.inr rfl⟩
  obtain ⟨tail, ht, htail⟩ := hB
  by_cases ha : A = []
  · exact ⟨[], tail, by simp [ha, ht], Or.inl rfl, htail⟩
  · refine ⟨[s].intercalate A ++ [s], tail, ?_, Or.inr (by simp), htail⟩
    rw [List.append_assoc A, intercalate_append _ _ _ ha (by simp [hM]), ht]
    simp [List.append_assoc]

end Scrut
