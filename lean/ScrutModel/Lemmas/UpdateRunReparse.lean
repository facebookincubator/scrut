import ScrutModel.Lemmas.UpdateRunConfig
import ScrutModel.Lemmas.GenerateMarkdown
/-!
# The written document, read again by the PARSER: the same tests, rewritten

`Updated.reread` (`Lemmas/UpdateRunProps.lean`) says what the TOKENS of the written document are: the
code lines of block `k` are the lines of the text of outcome `k`.  Here these lines are read by the
line parser (through the alignment `parseLines_inv`): they start with the command lines of the
original test, so the test parsed from them has the same command (`reparse_block`); prepared, it is the
original test with the written expectation lines and exit code, and it passes on the same run (`reread_test`).
-/
namespace Scrut.UpdateRun
open Scrut Scrut.TestRun Scrut.Markdown Scrut.Update Scrut.LineParser Scrut.GenLemmas Scrut.EscLemmas

theorem number_mem (ls : List Markdown.Line) (k : Nat) (x : Nat × Markdown.Line) (h : x ∈ number k ls) : x.2 ∈ ls :=
  number_map_snd k ls ▸ List.mem_map_of_mem h

theorem covers_code_mem {L : List Markdown.Line} {i : Nat} {lines : List Markdown.Line} {toks : List Tok}
    (h : Covers L i lines toks) : ∀ b ∈ testBlocks toks, ∀ l ∈ b.2, l ∈ lines := by
  induction h with
  | nil i => intro b hb; simp [testBlocks] at hb
  | line i l rest toks _ _ ih =>
    intro b hb x hx
    exact List.mem_cons_of_mem _ (ih b (by simpa [testBlocks] using hb) x hx)
  | frontClosed i body rest toks _ _ ih =>
    intro b hb x hx
    have := ih b (by simpa [testBlocks] using hb) x hx
    simp [this]
  | frontOpen i body _ => intro b hb; simp [testBlocks] at hb
  | verbClosed i opener bt language config body closer rest toks _ _ _ _ _ ih =>
    intro b hb x hx
    have := ih b (by simpa [testBlocks] using hb) x hx
    simp [this]
  | verbOpen i opener bt language config body _ _ _ => intro b hb; simp [testBlocks] at hb
  | testClosed i opener bt language config body closer rest toks comments code _ _ _ _ hcc _ ih =>
    intro b hb x hx
    simp only [testBlocks] at hb
    split at hb
    · have := ih b hb x hx
      simp [this]
    · rcases List.mem_cons.mp hb with rfl | hb
      · obtain ⟨y, hy, rfl⟩ := List.mem_map.mp hx
        have : y ∈ number (i + 1) body := by rw [← hcc]; simp [hy]
        have := number_mem body _ y this
        simp [this]
      · have := ih b hb x hx
        simp [this]
  | testOpen i opener bt language config body comments code _ _ _ hcc =>
    intro b hb x hx
    simp only [testBlocks] at hb
    split at hb
    · simp at hb
    · rcases List.mem_cons.mp hb with rfl | hb
      · obtain ⟨y, hy, rfl⟩ := List.mem_map.mp hx
        have : y ∈ number (i + 1) body := by rw [← hcc]; simp [hy]
        have := number_mem body _ y this
        simp [this]
      · simp at hb

theorem docToks_code_clean {content : List Char} (hcr : NoStrayCR content) :
    ∀ b ∈ testBlocks (docToks content), ∀ l ∈ b.2, Update.Clean l := by
  obtain ⟨toks, ht, hc⟩ := tokenize_covers [Gen.language] (splitLines content)
  rw [tokenize_docToks] at ht
  cases ht
  intro b hb l hl
  have hm := covers_code_mem hc b hb l hl
  exact ⟨splitLines_no_nl content l hm, hcr l hm⟩

theorem conts_unique : ∀ (more more' after after' : List Markdown.Line),
    more.map contLine ++ after = more'.map contLine ++ after' → NotCont after → NotCont after' →
    more = more' ∧ after = after'
  | [], more', after, after', h, hn, hn' =>
    (conts_none_iff (P := fun m a => m = more' ∧ a = after') hn).mp ⟨more', after', h, hn', rfl, rfl⟩
  | x :: m, more', after, after', h, hn, hn' => by
    obtain ⟨m2, a, h2, hna, rfl, rfl⟩ :=
      (conts_cons_iff (P := fun mm a => mm = more' ∧ a = after')).mp ⟨more', after', h, hn', rfl, rfl⟩
    obtain ⟨rfl, rfl⟩ := conts_unique m m2 after a h2 hn hna
    exact ⟨rfl, rfl⟩

theorem blockOf_unique {expOk : Markdown.Line → Bool} {cfg : Numbered} {c0 : Markdown.Line} {more after : List Markdown.Line}
    {t : TestCase Cfg} (hn : NotCont after)
    (h : BlockOf expOk cfg (('$' :: ' ' :: c0) :: (more.map contLine ++ after)) t) :
    t.command = c0 :: more ∧ t.expectations = expLines after ∧ t.exitCode = (exitCodes after).head? ∧
    t.config = some (cfgOf cfg) := by
  obtain ⟨c0', more', after', hcode, hn', h1, h2, h3, _, _, h6⟩ := h
  simp only [List.cons.injEq] at hcode
  obtain ⟨⟨_, _, rfl⟩, hrest⟩ := hcode
  obtain ⟨rfl, rfl⟩ := conts_unique more more' after after' hrest hn hn'
  exact ⟨h1, h2, h3, h6⟩

/-- `join("\n")` is modelled twice, next to its two callers: the line parser's `shell_expression` and the generator -/
theorem joinNl_eq : ∀ (ls : List (List Char)), LineParser.joinNl ls = Gen.joinNl ls
  | [] => rfl
  | [_] => rfl
  | l :: l' :: r => by
    show l ++ '\n' :: LineParser.joinNl (l' :: r) = l ++ '\n' :: Gen.joinNl (l' :: r)
    rw [joinNl_eq (l' :: r)]

theorem exitLines_notCont (code : Int) : NotCont (exitLines code) := by
  unfold exitLines
  split
  · simp [NotCont, stripPrefix]
  · trivial

def exitLine (code : Int) : Markdown.Line := ['['] ++ Gen.showInt code ++ [']']

/-- the lines `generate_testcase` writes behind the command lines for the expectation texts `newOrigs` and the
exit code (fix cfef990): `[code]` first if the first text starts with `> `, else last and only if not 0 -/
def afterLines (newOrigs : List Markdown.Line) (code : Int) : List Markdown.Line :=
  if contHead newOrigs then exitLine code :: newOrigs else newOrigs ++ exitLines code

theorem stripPrefix_none_of_take2 (o : Markdown.Line) (h : (o.take 2 == ['>', ' ']) = false) :
    stripPrefix ['>', ' '] o = none := by
  match o, h with
  | [], _ => rfl
  | [c], _ => by_cases hc : '>' = c <;> simp [stripPrefix, hc]
  | a :: b :: r, h =>
    have h' : ¬ (a = '>' ∧ b = ' ') := by simpa using h
    by_cases ha : '>' = a
    · by_cases hb : ' ' = b
      · exact absurd ⟨ha.symm, hb.symm⟩ h'
      · simp [stripPrefix, hb]
    · simp [stripPrefix, ha]

theorem afterLines_notCont (newOrigs : List Markdown.Line) (code : Int) : NotCont (afterLines newOrigs code) := by
  unfold afterLines
  cases hc : contHead newOrigs with
  | true => simp [NotCont, exitLine, stripPrefix]
  | false =>
    cases newOrigs with
    | nil => simpa using exitLines_notCont code
    | cons o rest =>
      have : (o.take 2 == ['>', ' ']) = false := hc
      simpa [NotCont] using stripPrefix_none_of_take2 o this

theorem afterLines_clean (newOrigs : List Markdown.Line) (code : Int) (h : ∀ o ∈ newOrigs, Update.Clean o) :
    ∀ l ∈ afterLines newOrigs code, Update.Clean l := by
  intro l hl
  unfold afterLines at hl
  split at hl
  · rcases List.mem_cons.mp hl with rfl | hl
    · exact clean_of_forall (exitLine_ctl code)
    · exact h l hl
  · rcases List.mem_append.mp hl with hl | hl
    · exact h l hl
    · exact clean_of_forall (exitLines_ctl code l hl)

theorem withExitCode_unlines (newOrigs : List Markdown.Line) (code : Int) (h : ∀ o ∈ newOrigs, '\n' ∉ o) :
    Gen.withExitCode true (newOrigs.flatMap Gen.assureNewlineC) code = Update.unlines (afterLines newOrigs code) := by
  rw [withExitCode_contHead, Update.assureNewlineC_eq_assureNewline, Update.flatMap_assure newOrigs h]
  unfold afterLines
  split
  · simp [Update.unlines, Gen.exitCodeLine, exitLine]
  · rw [exitCodeOpt_unlines, Update.unlines_append]

theorem clean_drop2 {a b : Char} {x : Markdown.Line} (h : Update.Clean (a :: b :: x)) : Update.Clean x := by
  refine ⟨fun hx => h.1 (by simp [hx]), fun hx => h.2 ?_⟩
  cases x with
  | nil => simp at hx
  | cons c r => simpa using hx

theorem outcome_block_lines {isOther : Char → Bool} (hC : AsciiContract isOther) {expOk : Markdown.Line → Bool}
    {cfg : Numbered} {code : List Markdown.Line} {t : TestCase Cfg} {u : UTest} {r : Ran}
    {res : Gen.UpdResult} {g : List Char}
    (hb : BlockOf expOk cfg code t) (hclean : ∀ l ∈ code, Update.Clean l)
    (hu : prepareU t = .ok u)
    (ho : outcomeText isOther u r = .ok (res, some g)) :
    ∃ (newOrigs : List (List Char)) (c0 : Markdown.Line) (more : List Markdown.Line),
      WrittenLines isOther u r res g newOrigs ∧ t.command = c0 :: more ∧
      splitLines g = (('$' :: ' ' :: c0) :: more.map contLine) ++ afterLines newOrigs r.code ∧
      (∀ o ∈ newOrigs, isExitCodeForm o = false) := by
  obtain ⟨c0, more, after, hcode, _, h1, h2, _, _, hform, _⟩ := hb
  obtain ⟨_, hucmd, huorigs, _⟩ := prepareU_compiled hu
  obtain ⟨newOrigs, hw⟩ := outcome_full hC ho
  obtain ⟨ex, hex, hg⟩ := hw.text
  -- the command lines
  have hc0 : Update.Clean c0 := clean_drop2 (hclean ('$' :: ' ' :: c0) (by rw [hcode]; simp))
  have hmore : ∀ x ∈ more, Update.Clean x := fun x hx => clean_drop2
    (hclean (contLine x) (by rw [hcode]; exact List.mem_cons_of_mem _ (List.mem_append_left _ (List.mem_map_of_mem hx))))
  have hlines : ∀ l ∈ c0 :: more, '\n' ∉ l := by
    intro l hl
    rcases List.mem_cons.mp hl with rfl | hl
    · exact hc0.1
    · exact (hmore l hl).1
  have hexl := expression_lines c0 more hlines
  rw [← joinNl_eq, ← h1, show LineParser.joinNl t.command = t.shellExpression from rfl, ← hucmd, hex] at hexl
  have hex' : ex = Update.unlines (('$' :: ' ' :: c0) :: more.map contLine) := Option.some.inj hexl
  -- the expectation lines written: retained lines of the block, or generated ones
  have horig : ∀ o ∈ newOrigs, Update.Clean o ∧ isExitCodeForm o = false := by
    intro o ho'
    rcases hw.origin_ok hC ho' with hin | ⟨g1, g2, g3⟩
    · rw [huorigs, h2] at hin
      exact ⟨hclean o (by rw [hcode]; simp [(List.mem_filter.mp hin).1]), (hform o hin).2⟩
    · exact ⟨⟨g1, g2⟩, g3⟩
  refine ⟨newOrigs, c0, more, hw, h1, ?_, fun o ho' => (horig o ho').2⟩
  rw [hg, hex', withExitCode_unlines newOrigs r.code (fun o ho' => (horig o ho').1.1), ← Update.unlines_append]
  apply Update.splitLines_unlines
  intro l hl
  simp only [List.cons_append, List.mem_cons, List.mem_append, List.mem_map] at hl
  rcases hl with rfl | ⟨x, hx, rfl⟩ | hl
  · exact hclean _ (by rw [hcode]; simp)
  · exact hclean _ (by rw [hcode]; exact List.mem_cons_of_mem _ (List.mem_append_left _ (List.mem_map_of_mem hx)))
  · exact afterLines_clean newOrigs r.code (fun o ho' => (horig o ho').1) l hl

theorem reparse_block {isOther : Char → Bool} (hC : AsciiContract isOther) {expOk : Markdown.Line → Bool}
    {cfg cfg' : Numbered} {code : List Markdown.Line} {t t' : TestCase Cfg} {u : UTest} {r : Ran}
    {res : Gen.UpdResult} {g : List Char}
    (hb : BlockOf expOk cfg code t) (hclean : ∀ l ∈ code, Update.Clean l)
    (hu : prepareU t = .ok u)
    (ho : outcomeText isOther u r = .ok (res, some g))
    (hb' : BlockOf expOk cfg' (splitLines g) t') :
    ∃ newOrigs : List (List Char), WrittenLines isOther u r res g newOrigs ∧
      t'.command = t.command ∧ t'.expectations = expLines (afterLines newOrigs r.code) ∧
      t'.exitCode = (exitCodes (afterLines newOrigs r.code)).head? ∧ t'.config = some (cfgOf cfg') ∧
      (∀ o ∈ newOrigs, isExitCodeForm o = false) := by
  obtain ⟨newOrigs, c0, more, hw, h1, hsplit, hnoexit⟩ := outcome_block_lines hC hb hclean hu ho
  rw [hsplit, List.cons_append] at hb'
  obtain ⟨g1, g2, g3, g4⟩ := blockOf_unique (afterLines_notCont newOrigs r.code) hb'
  exact ⟨newOrigs, hw, by rw [g1, h1], g2, g3, g4, hnoexit⟩

theorem extractExitCode_exitLine (code : Int) (h0 : 0 ≤ code) (h1 : code ≤ i32Max) :
    extractExitCode (exitLine code) = some code.toNat :=
  exitLine_exit_i32 code h0 h1

theorem expLines_afterLines (ts : List Markdown.Line) (hts : ∀ t ∈ ts, extractExitCode t = none) (code : Int)
    (h0 : 0 ≤ code) (h1 : code ≤ i32Max) : expLines (afterLines ts code) = ts := by
  unfold afterLines
  split
  · rw [expLines_cons_some _ (extractExitCode_exitLine code h0 h1)]
    have := expLines_after ts hts 0 (by decide) (by decide)
    simpa [exitLines] using this
  · exact expLines_after ts hts code h0 h1

theorem exitCodes_afterLines (ts : List Markdown.Line) (hts : ∀ t ∈ ts, extractExitCode t = none) (code : Int)
    (h0 : 0 ≤ code) (h1 : code ≤ i32Max) :
    exitCodes (afterLines ts code) = if contHead ts ∨ code ≠ 0 then [code.toNat] else [] := by
  unfold afterLines
  cases hc : contHead ts with
  | true =>
    simp only [if_true, true_or]
    rw [exitCodes_cons_some _ (extractExitCode_exitLine code h0 h1)]
    have := exitCodes_after ts hts 0 (by decide) (by decide)
    simp only [exitLines, ne_eq, not_true_eq_false, if_false, List.append_nil] at this
    rw [this]
  | false =>
    simp only [Bool.false_eq_true, if_false, false_or]
    exact exitCodes_after ts hts code h0 h1

theorem expected_afterLines (ts : List Markdown.Line) (hts : ∀ t ∈ ts, extractExitCode t = none) (code : Int)
    (h0 : 0 ≤ code) (h1 : code ≤ i32Max) :
    (((exitCodes (afterLines ts code)).head?).map Int.ofNat).getD 0 = code := by
  rw [exitCodes_afterLines ts hts code h0 h1]
  split
  · simpa using Int.toNat_of_nonneg h0
  · rename_i hn
    have : code = 0 := Decidable.of_not_not (not_or.mp hn).2
    simp [this]

/-- everything that belongs to test `j` of the written document: the original test `t`, its
prepared form `u`, its run `r`, its outcome `(res, g)`, and the two blocks -/
structure Aligned (isOther : Char → Bool) (content : List Char) (runs : List Ran) (results : List Gen.UpdResult)
    (p : Parsed) (j : Nat) (t' : TestCase Cfg) (t : TestCase Cfg) (u : UTest) (r : Ran) (res : Gen.UpdResult)
    (g : List Char) (b b' : Numbered × List Markdown.Line) : Prop where
  test : p.tests[j]? = some t
  prepared : prepareU t = .ok u
  run : runs[j]? = some r
  outcome : outcomeText isOther u r = .ok (res, some g)
  result : results[j]? = some res
  block : BlockOf parseEnv.expOk b.1 b.2 t
  clean : ∀ l ∈ b.2, Update.Clean l
  block' : BlockOf parseEnv.expOk b'.1 (splitLines g) t'
  config : configSuffix b'.1 = configSuffix b.1
  /-- the configuration text read back is the one `update` wrote: the original without leading white space -/
  configRead : b'.1.map (·.2) = writtenCfg b.1
  blockMem : b ∈ testBlocks (docToks content)

section
variable {isOther : Char → Bool} {content : List Char} {runs : List Ran} {text : List Char}
  {results : List Gen.UpdResult} {tests : List UTest} {os : List (Gen.UpdResult × Option (List Char))}

theorem Updated.aligned (hu : Updated isOther content runs text results tests os) (hcr : NoStrayCR content)
    {p p' : Parsed} (hp : parseMarkdown parseEnv content = .ok p) (hp' : parseMarkdown parseEnv text = .ok p') :
    p'.tests.length = p.tests.length ∧ p'.docConfigs = p.docConfigs ∧
    ∀ (j : Nat) (t' : TestCase Cfg), p'.tests[j]? = some t' →
      ∃ t u r res g b b', Aligned isOther content runs results p j t' t u r res g b b' ∧
        tests[j]? = some u ∧ os[j]? = some (res, some g) := by
  obtain ⟨hrr, hcw⟩ := hu.reread hcr
  obtain ⟨hbr, hfront⟩ := reread_blocks hrr hcw
  obtain ⟨p0, hp0, _, hprep⟩ := docTests_spec hu.tests_eq
  rw [hp] at hp0
  cases hp0
  obtain ⟨hd, hb⟩ := parseLines_inv parseEnv (splitLines content) p hp
  obtain ⟨hd', hb'⟩ := parseLines_inv parseEnv (splitLines text) p' hp'
  have hb : Pairs (fun b tc => BlockOf parseEnv.expOk b.1 b.2 tc) (testBlocks (docToks content)) p.tests := hb
  have hb' : Pairs (fun b tc => BlockOf parseEnv.expOk b.1 b.2 tc) (testBlocks (docToks text)) p'.tests := hb'
  refine ⟨by rw [← hb'.length_eq, ← hb.length_eq]; exact hbr.length_eq, by rw [hd', hd]; exact hfront,
    fun j t' ht' => ?_⟩
  obtain ⟨b', hbj', hblk'⟩ := hb'.get' j t' ht'
  obtain ⟨b, g, hbj, hgj, hcode', hcfg, hcr'⟩ := hbr.get j b' hbj'
  obtain ⟨t, htj, hblk⟩ := hb.get j b hbj
  obtain ⟨u, huj, hprepj⟩ := hprep.get j t htj
  obtain ⟨r, res, g', hr, hok, hot⟩ := hu.get huj
  rw [Nat.zero_add, List.getElem?_map, hok] at hgj
  cases hgj
  exact ⟨t, u, r, res, g, b, b', ⟨htj, hprepj, hr, hot, by rw [hu.results_eq, List.getElem?_map, hok]; rfl, hblk,
    docToks_code_clean hcr b (List.mem_of_getElem? hbj), by rw [← hcode']; exact hblk', hcfg, hcr',
    List.mem_of_getElem? hbj⟩, huj, hok⟩

end

/-- the line parser reads `[code]` back as `code` only if the number fits an `i32` (`exitLine_exit_i32`): hence the
bound; the statements of C10 pass the 0..255 of a process exit status -/
theorem reread_test {isOther : Char → Bool} (hC : AsciiContract isOther) {content : List Char} {runs : List Ran}
    {results : List Gen.UpdResult} {p : Parsed} {j : Nat} {t' t : TestCase Cfg} {u : UTest} {r : Ran}
    {res : Gen.UpdResult} {g : List Char} {b b' : Numbered × List Markdown.Line}
    (ha : Aligned isOther content runs results p j t' t u r res g b b')
    (hcode : 0 ≤ r.code ∧ r.code ≤ i32Max) (hq : (∃ d, res = .malformed d) → Unquantified u) :
    ∃ u', prepareU t' = .ok u' ∧ u'.test.cfg = u.test.cfg ∧ Passes u' r ∧ passText u' = some g := by
  obtain ⟨newOrigs, hw, c1, c2, c3, c4, c5⟩ := reparse_block hC ha.block ha.clean ha.prepared ha.outcome ha.block'
  have hts : ∀ o ∈ newOrigs, extractExitCode o = none := fun o h => extractExitCode_of_not_form (c5 o h)
  rw [expLines_afterLines newOrigs hts r.code hcode.1 hcode.2] at c2
  obtain ⟨hcomp, hcmd, _, _⟩ := prepareU_compiled ha.prepared
  obtain ⟨newExps, hne, hps⟩ := hw.passes hcomp hq
  obtain ⟨ex, hex, hg⟩ := hw.text
  have htc : t.config = some (cfgOf b.1) := ha.block.config
  have hi : inlineCfg t'.config = inlineCfg t.config := by
    rw [c4, htc]
    exact inlineCfg_written ha.configRead (by rw [← htc]; exact prepareU_cfg_read ha.prepared)
  have hexp : (t'.exitCode.map Int.ofNat).getD 0 = r.code := by
    rw [c3]; exact expected_afterLines newOrigs hts r.code hcode.1 hcode.2
  refine ⟨_, prepareU_ok_of ha.prepared hi (by rw [c4, htc]; rfl) (exps := newExps) (by rw [c2]; exact hne), rfl,
    hps.of_expected (by rw [hexp, writtenExpected_getD]), ?_⟩
  have hcmd' : t'.shellExpression = u.cmd := by
    rw [hcmd]; show LineParser.joinNl t'.command = LineParser.joinNl t.command; rw [c1]
  simp only [passText, Gen.generateTestcaseUpd, hcmd', hex, hexp, c2, hg]

theorem run_same_commands_parsed {isOther : Char → Bool} (hC : AsciiContract isOther) {content : List Char}
    {runs : List Ran} {text : List Char} {results : List Gen.UpdResult}
    (h : updateDocument isOther content runs = .updated text results) (hcr : NoStrayCR content)
    {p p' : Parsed} (hp : parseMarkdown parseEnv content = .ok p) (hp' : parseMarkdown parseEnv text = .ok p') :
    p'.tests.map (·.command) = p.tests.map (·.command) := by
  obtain ⟨tests, os, hu⟩ := updated_spec h
  obtain ⟨hlen, _, hall⟩ := hu.aligned hcr hp hp'
  apply List.ext_getElem?
  intro j
  rw [List.getElem?_map, List.getElem?_map]
  cases ht' : p'.tests[j]? with
  | none =>
    have : p.tests[j]? = none := by
      rw [List.getElem?_eq_none_iff] at ht' ⊢
      rw [← hlen]; exact ht'
    rw [this]
  | some t' =>
    obtain ⟨t, u, r, res, g, b, b', ha, _, _⟩ := hall j t' ht'
    obtain ⟨_, _, hc, _⟩ := reparse_block hC ha.block ha.clean ha.prepared ha.outcome ha.block'
    rw [ha.test]
    simp [hc]

end Scrut.UpdateRun
