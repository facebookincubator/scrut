import ScrutModel.Lemmas.Glob
/-! The wildmatch crate's iterative loop with a single backtrack point (`wildLoop`, transliterated in
`Model/Glob.lean`) computes the recursive denotation `globGo`, and the fuel handed to it by
`wildMatch` is always sufficient.

State `(p, c, rest, bt)`; specification of the state: `globGo p (c :: rest) || btAlt bt` where the
backtrack point `(ps, m)` stands for "`*` followed by `ps`, the `*` consuming at least the character
in front of `m`" (`anySuffix (globGo ps) m`).

Why a new `*` may forget the old backtrack point (`btAlt_discard`): the pattern since the old
point, `pre`, contains no `*` and has consumed exactly `|pre|` characters; any later start of
`pre ++ '*' :: p'` therefore reaches `'*' :: p'` at or after the current position, and `*` absorbs
the difference. -/
namespace Scrut.Glob

theorem globGo_nil_right (q : List Char) : globGo q [] = wildFinish q := by
  induction q with
  | nil => rfl
  | cons pc q ih =>
    by_cases h : pc = '*'
    · subst h
      simp only [globGo, if_true, anySuffix, ih]
      simp [wildFinish]
    · have hb : (pc == '*') = false := by simpa using h
      simp [globGo, if_neg h, wildFinish, hb]

theorem globGo_starfree_prefix (pre q : List Char) : ∀ t : List Char, '*' ∉ pre →
    globGo (pre ++ q) t = true → pre.length ≤ t.length ∧ globGo q (t.drop pre.length) = true := by
  induction pre with
  | nil => intro t _ h; exact ⟨Nat.zero_le _, by simpa using h⟩
  | cons x pre ih =>
    intro t hmem h
    have hx : x ≠ '*' := fun e => hmem (by simp [e])
    have hpre : '*' ∉ pre := fun e => hmem (by simp [e])
    cases t with
    | nil => simp [globGo, if_neg hx] at h
    | cons d t =>
      simp only [List.cons_append, globGo, if_neg hx, Bool.and_eq_true] at h
      have := ih t hpre h.2
      exact ⟨by simp only [List.length_cons]; omega, by simpa using this.2⟩

def btAlt : Option (List Char × List Char) → Bool
  | none => false
  | some (ps, m) => anySuffix (globGo ps) m

/-- since the backtrack point `(ps, m)` the `*`-free text `pre` of the pattern was matched against as
many characters of the input -/
def BtInv (p rest : List Char) : Option (List Char × List Char) → Prop
  | none => True
  | some (ps, m) => ∃ pre : List Char, '*' ∉ pre ∧ ps = pre ++ p ∧ rest <:+ m ∧ rest.length + pre.length = m.length

def loopBound (p rest : List Char) : Option (List Char × List Char) → Nat
  | none => p.length + rest.length * (p.length + 2)
  | some (ps, m) => p.length + m.length * (ps.length + 2)

theorem anySuffix_of_suffix {f : List Char → Bool} {t u : List Char} (hs : t <:+ u)
    (h : anySuffix f t = true) : anySuffix f u = true := by
  rw [anySuffix_iff] at h ⊢
  obtain ⟨t', ht', hf⟩ := h
  exact ⟨t', ht'.trans hs, hf⟩

theorem btAlt_discard {p' rest : List Char} {bt : Option (List Char × List Char)} (c : Char)
    (hinv : BtInv ('*' :: p') rest bt) (h : btAlt bt = true) :
    anySuffix (globGo p') (c :: rest) = true := by
  cases bt with
  | none => simp [btAlt] at h
  | some b =>
    obtain ⟨ps, m⟩ := b
    obtain ⟨pre, hpre, rfl, hsuf, hlen⟩ := hinv
    simp only [btAlt] at h
    rw [anySuffix_iff] at h
    obtain ⟨t, ⟨r, rfl⟩, ht⟩ := h
    obtain ⟨hle, hgo⟩ := globGo_starfree_prefix pre ('*' :: p') t hpre ht
    simp only [globGo, if_true] at hgo
    -- `t.drop |pre|` is a suffix of `r ++ t` that is not longer than `rest`
    have h1 : t.drop pre.length <:+ r ++ t :=
      (List.drop_suffix _ _).trans (List.suffix_append _ _)
    have h2 : (t.drop pre.length).length ≤ rest.length := by
      simp only [List.length_drop, List.length_append] at hlen ⊢
      omega
    have h3 : t.drop pre.length <:+ rest := List.suffix_of_suffix_length_le h1 hsuf h2
    exact anySuffix_of_suffix (h3.trans (List.suffix_cons _ _)) hgo

theorem btAlt_false_at_end {pc : Char} {p' : List Char} {bt : Option (List Char × List Char)}
    (hpc : pc ≠ '*') (hinv : BtInv (pc :: p') [] bt) : btAlt bt = false := by
  -- a suffix of `m` matched by `pre ++ pc :: p'` holds at least `|pre| + 1` characters, but `|m| = |pre|`
  cases bt with
  | none => rfl
  | some b =>
    obtain ⟨ps, m⟩ := b
    obtain ⟨pre, hpre, rfl, _, hlen⟩ := hinv
    cases hb : btAlt (some (pre ++ pc :: p', m)) with
    | false => rfl
    | true =>
      exfalso
      simp only [btAlt] at hb
      rw [anySuffix_iff] at hb
      obtain ⟨t, ⟨r, rfl⟩, ht⟩ := hb
      have hpre' : '*' ∉ pre ++ [pc] := by
        simp only [List.mem_append, List.mem_singleton, not_or]
        exact ⟨hpre, fun e => hpc e.symm⟩
      have heq : pre ++ pc :: p' = (pre ++ [pc]) ++ p' := by simp
      rw [heq] at ht
      have := (globGo_starfree_prefix (pre ++ [pc]) p' t hpre' ht).1
      simp only [List.length_append, List.length_cons, List.length_nil] at this hlen
      omega

theorem btAlt_step (ps : List Char) (c' : Char) (m' : List Char) :
    (globGo ps (c' :: m') || btAlt (some (ps, m'))) = btAlt (some (ps, c' :: m')) := by
  simp [btAlt, anySuffix]

/-- the model's local `backtrack` of `wildLoop` under a name (`wildLoop` unfolds to it by `rfl`, which
`wildLoop_spec` uses where it hands a goal about `wildLoop` to `backtrackStep_spec`) -/
def backtrackStep (fuel : Nat) : Option (List Char × List Char) → Option Bool
  | some (ps, m) =>
    match m with
    | c' :: m' => wildLoop fuel ps c' m' (some (ps, m'))
    | [] => some (wildFinish ps)
  | none => some false

theorem backtrackStep_spec (fuel : Nat)
    (ih : ∀ (p : List Char) (c : Char) (rest : List Char) (bt : Option (List Char × List Char)),
      BtInv p rest bt → loopBound p rest bt < fuel → wildLoop fuel p c rest bt = some (globGo p (c :: rest) || btAlt bt))
    (p : List Char) (c : Char) (rest : List Char) (bt : Option (List Char × List Char))
    (hmu : loopBound p rest bt < fuel + 1) (hp : globGo p (c :: rest) = false) :
    backtrackStep fuel bt = some (globGo p (c :: rest) || btAlt bt) := by
  rw [hp, Bool.false_or]
  cases bt with
  | none => rfl
  | some b =>
    obtain ⟨ps, m⟩ := b
    cases m with
    | nil => simp [backtrackStep, btAlt, anySuffix, globGo_nil_right]
    | cons c' m' =>
      have hinv' : BtInv ps m' (some (ps, m')) :=
        ⟨[], by simp, by simp, List.suffix_refl _, by simp⟩
      have hmu' : loopBound ps m' (some (ps, m')) < fuel := by
        simp only [loopBound, List.length_cons] at hmu ⊢
        rw [Nat.succ_mul] at hmu
        omega
      simp only [backtrackStep]
      rw [ih ps c' m' (some (ps, m')) hinv' hmu', btAlt_step]

theorem wildLoop_spec : ∀ (fuel : Nat) (p : List Char) (c : Char) (rest : List Char)
    (bt : Option (List Char × List Char)), BtInv p rest bt → loopBound p rest bt < fuel →
    wildLoop fuel p c rest bt = some (globGo p (c :: rest) || btAlt bt) := by
  intro fuel
  induction fuel with
  | zero => intro p c rest bt _ h; omega
  | succ fuel ih =>
    intro p c rest bt hinv hmu
    cases p with
    | nil =>
      simp only [wildLoop]
      exact backtrackStep_spec fuel ih [] c rest bt hmu (by simp [globGo])
    | cons pc p' =>
      by_cases hstar : pc = '*'
      · subst hstar
        simp only [wildLoop, if_true]
        have hinv' : BtInv p' rest (some (p', rest)) :=
          ⟨[], by simp, by simp, List.suffix_refl _, by simp⟩
        have hmu' : loopBound p' rest (some (p', rest)) < fuel := by
          cases bt with
          | none =>
            simp only [loopBound, List.length_cons] at hmu ⊢
            have : rest.length * (p'.length + 2) ≤ rest.length * (p'.length + 1 + 2) :=
              Nat.mul_le_mul_left _ (by omega)
            omega
          | some b =>
            obtain ⟨ps, m⟩ := b
            obtain ⟨pre, _, rfl, hsuf, hlen⟩ := hinv
            simp only [loopBound, List.length_cons, List.length_append] at hmu ⊢
            have h1 : rest.length ≤ m.length := by omega
            have : rest.length * (p'.length + 2) ≤ m.length * (pre.length + (p'.length + 1) + 2) :=
              Nat.mul_le_mul h1 (by omega)
            omega
        rw [ih p' c rest (some (p', rest)) hinv' hmu']
        congr 1
        have hspec : (globGo p' (c :: rest) || btAlt (some (p', rest))) = globGo ('*' :: p') (c :: rest) := by
          simp [btAlt, globGo, anySuffix]
        rw [hspec]
        cases halt : btAlt bt with
        | false => simp
        | true =>
          have := btAlt_discard c hinv halt
          simp only [globGo, if_true, this, Bool.or_self]
      · by_cases hm : pc = '?' ∨ pc = c
        · simp only [wildLoop, if_neg hstar, if_pos hm]
          have hmb : (decide (pc = '?') || decide (pc = c)) = true := by
            rcases hm with h | h <;> simp [h]
          cases rest with
          | nil =>
            simp only []
            rw [btAlt_false_at_end hstar hinv]
            simp [globGo, if_neg hstar, hmb, globGo_nil_right]
          | cons c' rest' =>
            simp only []
            have hinv' : BtInv p' rest' bt := by
              cases bt with
              | none => trivial
              | some b =>
                obtain ⟨ps, m⟩ := b
                obtain ⟨pre, hpre, rfl, hsuf, hlen⟩ := hinv
                refine ⟨pre ++ [pc], ?_, by simp, (List.suffix_cons _ _).trans hsuf, ?_⟩
                · simp only [List.mem_append, List.mem_singleton, not_or]
                  exact ⟨hpre, fun e => hstar e.symm⟩
                · simp only [List.length_cons, List.length_append, List.length_nil] at hlen ⊢
                  omega
            have hmu' : loopBound p' rest' bt < fuel := by
              cases bt with
              | none =>
                simp only [loopBound, List.length_cons] at hmu ⊢
                have : rest'.length * (p'.length + 2) ≤ (rest'.length + 1) * (p'.length + 1 + 2) :=
                  Nat.mul_le_mul (by omega) (by omega)
                omega
              | some b =>
                obtain ⟨ps, m⟩ := b
                simp only [loopBound, List.length_cons] at hmu ⊢
                omega
            rw [ih p' c' rest' bt hinv' hmu']
            simp [globGo, if_neg hstar, hmb]
        · simp only [wildLoop, if_neg hstar, if_neg hm]
          have hmb : (decide (pc = '?') || decide (pc = c)) = false := by
            simp only [not_or] at hm
            simp [hm.1, hm.2]
          exact backtrackStep_spec fuel ih (pc :: p') c rest bt hmu (by simp [globGo, if_neg hstar, hmb])

theorem wildMatch_eq (p s : List Char) : wildMatch p s = some (globMatch p s) := by
  unfold wildMatch globMatch
  simp only []
  by_cases hq : (simplify p).isEmpty = true
  · simp only [hq, if_true]
    have : simplify p = [] := by simpa using hq
    rw [this]; rfl
  · simp only [hq]
    cases s with
    | nil => simp [globGo_nil_right]
    | cons c rest =>
      have hmu : loopBound (simplify p) rest none < wildFuel (simplify p) (c :: rest) := by
        simp only [loopBound, wildFuel, List.length_cons]
        have : rest.length * ((simplify p).length + 2) ≤ (rest.length + 1 + 2) * ((simplify p).length + 2) :=
          Nat.mul_le_mul_right _ (by omega)
        rw [Nat.mul_comm ((simplify p).length + 2)]
        have h2 : (rest.length + 1 + 2) * ((simplify p).length + 2) =
            rest.length * ((simplify p).length + 2) + 3 * ((simplify p).length + 2) := by
          rw [Nat.add_assoc, Nat.add_mul]
        omega
      have := wildLoop_spec _ (simplify p) c rest none trivial hmu
      simp only [btAlt, Bool.or_false] at this
      simpa using this

end Scrut.Glob
