import ScrutModel.Model.Utf8
/-!
# The UTF-8 decoder of the model is sound and complete

Encoder and decoder are compared lead byte by lead byte; that the two are inverse is arithmetic
about the bytes and the code point, stated about variables outside any other context, one `omega` each.
-/
namespace Scrut.Utf8

theorem val_ofNat (n : Nat) (h : n.isValidChar) : (Char.ofNat n).val.toNat = n := by
  simp [Char.ofNat, h, Char.ofNatAux]

theorem toNat_ofNat (n : Nat) (h : n < 0xd800) : (Char.ofNat n).toNat = n := val_ofNat n (Or.inl h)

theorem tn (n : Nat) (h : n < 256) : (UInt8.ofNat n).toNat = n := UInt8.toNat_ofNat_of_lt' h

theorem enc1 (n : Nat) (h : n < 0x80) : String.utf8EncodeChar (Char.ofNat n) = [UInt8.ofNat n] := by
  have hv := val_ofNat n (Or.inl (by omega))
  simp only [String.utf8EncodeChar, hv]
  rw [if_pos (by omega)]

theorem enc2 (n : Nat) (h1 : 0x80 ≤ n) (h2 : n ≤ 0x7ff) :
    String.utf8EncodeChar (Char.ofNat n) = [UInt8.ofNat (n / 64 % 32 + 0xc0), UInt8.ofNat (n % 64 + 0x80)] := by
  have hv := val_ofNat n (Or.inl (by omega))
  simp only [String.utf8EncodeChar, hv]
  rw [if_neg (by omega), if_pos (by omega)]

theorem enc3 (n : Nat) (h1 : 0x800 ≤ n) (h2 : n ≤ 0xffff) (h3 : n < 0xd800 ∨ 0xdfff < n) :
    String.utf8EncodeChar (Char.ofNat n) =
      [UInt8.ofNat (n / 4096 % 16 + 0xe0), UInt8.ofNat (n / 64 % 64 + 0x80), UInt8.ofNat (n % 64 + 0x80)] := by
  have hv := val_ofNat n (by rcases h3 with h | h; exact Or.inl h; exact Or.inr ⟨h, by omega⟩)
  simp only [String.utf8EncodeChar, hv]
  rw [if_neg (by omega), if_neg (by omega), if_pos (by omega)]

theorem enc4 (n : Nat) (h1 : 0x10000 ≤ n) (h2 : n ≤ 0x10ffff) :
    String.utf8EncodeChar (Char.ofNat n) =
      [UInt8.ofNat (n / 262144 % 8 + 0xf0), UInt8.ofNat (n / 4096 % 64 + 0x80), UInt8.ofNat (n / 64 % 64 + 0x80), UInt8.ofNat (n % 64 + 0x80)] := by
  have hv := val_ofNat n (Or.inr ⟨by omega, by omega⟩)
  simp only [String.utf8EncodeChar, hv]
  rw [if_neg (by omega), if_neg (by omega), if_neg (by omega)]

/-- the decoder's test of the second byte `b` after the lead `a` (`x`, `y`: the leads with a
narrower range), without the conditionals -/
theorem second_iff {a b x lo y hi : Nat} (hlo : 0x80 ≤ lo) (hhi : hi ≤ 0xBF) :
    ((if a = x then lo else 0x80) ≤ b ∧ b ≤ (if a = y then hi else 0xBF)) ↔
      (0x80 ≤ b ∧ b ≤ 0xBF) ∧ (a = x → lo ≤ b) ∧ (a = y → b ≤ hi) := by
  split <;> split <;> omega

theorem dec1 (b0 : UInt8) (r : List UInt8) (h : b0.toNat < 0x80) :
    utf8Decode (b0 :: r) = (utf8Decode r).map (Char.ofNat b0.toNat :: ·) := by
  rw [utf8Decode.eq_def]; exact if_pos h

theorem dec2 (b0 b1 : UInt8) (r : List UInt8) (h0 : 0xC2 ≤ b0.toNat ∧ b0.toNat ≤ 0xDF)
    (h1 : 0x80 ≤ b1.toNat ∧ b1.toNat ≤ 0xBF) :
    utf8Decode (b0 :: b1 :: r) =
      (utf8Decode r).map (Char.ofNat (b0.toNat % 32 * 64 + b1.toNat % 64) :: ·) := by
  rw [utf8Decode]; simp only
  rw [if_neg (by omega), if_pos h0, if_pos h1]

theorem dec3 (b0 b1 b2 : UInt8) (r : List UInt8) (h0 : 0xE0 ≤ b0.toNat ∧ b0.toNat ≤ 0xEF)
    (h1 : (0x80 ≤ b1.toNat ∧ b1.toNat ≤ 0xBF) ∧ (b0.toNat = 0xE0 → 0xA0 ≤ b1.toNat) ∧
      (b0.toNat = 0xED → b1.toNat ≤ 0x9F))
    (h2 : 0x80 ≤ b2.toNat ∧ b2.toNat ≤ 0xBF) :
    utf8Decode (b0 :: b1 :: b2 :: r) =
      (utf8Decode r).map (Char.ofNat (b0.toNat % 16 * 4096 + b1.toNat % 64 * 64 + b2.toNat % 64) :: ·) := by
  have h1' := (second_iff (by decide) (by decide)).mpr h1
  rw [utf8Decode]; simp only
  rw [if_neg (by omega), if_neg (by omega), if_pos h0, if_pos ⟨h1'.1, h1'.2, h2⟩]

theorem dec4 (b0 b1 b2 b3 : UInt8) (r : List UInt8) (h0 : 0xF0 ≤ b0.toNat ∧ b0.toNat ≤ 0xF4)
    (h1 : (0x80 ≤ b1.toNat ∧ b1.toNat ≤ 0xBF) ∧ (b0.toNat = 0xF0 → 0x90 ≤ b1.toNat) ∧
      (b0.toNat = 0xF4 → b1.toNat ≤ 0x8F))
    (h2 : 0x80 ≤ b2.toNat ∧ b2.toNat ≤ 0xBF) (h3 : 0x80 ≤ b3.toNat ∧ b3.toNat ≤ 0xBF) :
    utf8Decode (b0 :: b1 :: b2 :: b3 :: r) =
      (utf8Decode r).map (Char.ofNat
        (b0.toNat % 8 * 262144 + b1.toNat % 64 * 4096 + b2.toNat % 64 * 64 + b3.toNat % 64) :: ·) := by
  have h1' := (second_iff (by decide) (by decide)).mpr h1
  rw [utf8Decode]; simp only
  rw [if_neg (by omega), if_neg (by omega), if_neg (by omega), if_pos h0,
    if_pos ⟨h1'.1, h1'.2, h2.1, h2.2, h3⟩]

theorem utf8Decode_ascii (bs : List UInt8) (h : ∀ b ∈ bs, b.toNat < 0x80) :
    utf8Decode bs = some (bs.map (fun b => Char.ofNat b.toNat)) := by
  induction bs with
  | nil => rfl
  | cons b r ih =>
    rw [dec1 b r (h b (List.mem_cons_self ..)), ih (fun x hx => h x (List.mem_cons_of_mem _ hx))]; rfl

theorem off_mod (m k x : Nat) (h : x < m) : (m * k + x) % m = x := by
  rw [Nat.mul_add_mod, Nat.mod_eq_of_lt h]

-- In `join3` and `join4` every byte is first written as its offset plus a digit, so that the `%` of the
-- decoder's expression are rewritten away before `omega` runs.
theorem join2 (a b : Nat) (ha : 0xC2 ≤ a ∧ a ≤ 0xDF) (hb : 0x80 ≤ b ∧ b ≤ 0xBF) :
    0x80 ≤ a % 32 * 64 + b % 64 ∧ a % 32 * 64 + b % 64 ≤ 0x7ff ∧
    (a % 32 * 64 + b % 64) / 64 % 32 + 0xc0 = a ∧ (a % 32 * 64 + b % 64) % 64 + 0x80 = b := by
  omega

theorem join3 (a b c : Nat) (ha : 0xE0 ≤ a ∧ a ≤ 0xEF)
    (hb : (0x80 ≤ b ∧ b ≤ 0xBF) ∧ (a = 0xE0 → 0xA0 ≤ b) ∧ (a = 0xED → b ≤ 0x9F))
    (hc : 0x80 ≤ c ∧ c ≤ 0xBF) :
    let n := a % 16 * 4096 + b % 64 * 64 + c % 64
    0x800 ≤ n ∧ n ≤ 0xffff ∧ (n < 0xd800 ∨ 0xdfff < n) ∧
    n / 4096 % 16 + 0xe0 = a ∧ n / 64 % 64 + 0x80 = b ∧ n % 64 + 0x80 = c := by
  obtain ⟨x, rfl⟩ : ∃ x, a = 16 * 14 + x := ⟨a - 224, by omega⟩
  obtain ⟨y, rfl⟩ : ∃ y, b = 64 * 2 + y := ⟨b - 128, by omega⟩
  obtain ⟨z, rfl⟩ : ∃ z, c = 64 * 2 + z := ⟨c - 128, by omega⟩
  intro n
  simp only [n, off_mod 16 14 x (by omega), off_mod 64 2 y (by omega), off_mod 64 2 z (by omega)]
  omega

theorem join4 (a b c d : Nat) (ha : 0xF0 ≤ a ∧ a ≤ 0xF4)
    (hb : (0x80 ≤ b ∧ b ≤ 0xBF) ∧ (a = 0xF0 → 0x90 ≤ b) ∧ (a = 0xF4 → b ≤ 0x8F))
    (hc : 0x80 ≤ c ∧ c ≤ 0xBF) (hd : 0x80 ≤ d ∧ d ≤ 0xBF) :
    let n := a % 8 * 262144 + b % 64 * 4096 + c % 64 * 64 + d % 64
    0x10000 ≤ n ∧ n ≤ 0x10ffff ∧ n / 262144 % 8 + 0xf0 = a ∧ n / 4096 % 64 + 0x80 = b ∧
    n / 64 % 64 + 0x80 = c ∧ n % 64 + 0x80 = d := by
  obtain ⟨w, rfl⟩ : ∃ w, a = 8 * 30 + w := ⟨a - 240, by omega⟩
  obtain ⟨x, rfl⟩ : ∃ x, b = 64 * 2 + x := ⟨b - 128, by omega⟩
  obtain ⟨y, rfl⟩ : ∃ y, c = 64 * 2 + y := ⟨c - 128, by omega⟩
  obtain ⟨z, rfl⟩ : ∃ z, d = 64 * 2 + z := ⟨d - 128, by omega⟩
  intro n
  simp only [n, off_mod 8 30 w (by omega), off_mod 64 2 x (by omega), off_mod 64 2 y (by omega),
    off_mod 64 2 z (by omega)]
  omega

theorem utf8Decode_sound : ∀ (bs : List UInt8) (cs : List Char), utf8Decode bs = some cs → utf8 cs = bs := by
  intro bs
  fun_induction utf8Decode bs <;> intro cs h
  -- the branches that reject: `none = some cs`
  all_goals try (simp at h; done)
  · subst_vars; simp at h; subst h; rfl
  -- a sequence was decoded: `cs` is its code point in front of the decoding of the rest
  all_goals
    simp only [Option.map_eq_some_iff] at h
    obtain ⟨cs', h1', rfl⟩ := h
    rename_i ih
    have := ih cs' h1'
    simp only [utf8, List.flatMap_cons] at this ⊢
    rw [this]
  · rename_i b0 r0 v0 hlt
    rw [enc1 _ hlt, UInt8.ofNat_toNat]; rfl
  · rename_i b0 v0 _ b1 r v1 h0 h1
    obtain ⟨q1, q2, q3, q4⟩ := join2 v0 v1 h0 h1
    rw [enc2 _ q1 q2, q3, q4, UInt8.ofNat_toNat, UInt8.ofNat_toNat]; rfl
  · rename_i b0 v0 _ b1 v1 _ b2 r v2 h0 h
    obtain ⟨q1, q2, q3, q4, q5, q6⟩ :=
      join3 v0 v1 v2 h0 ((second_iff (by decide) (by decide)).mp ⟨h.1, h.2.1⟩) h.2.2
    rw [enc3 _ q1 q2 q3, q4, q5, q6, UInt8.ofNat_toNat, UInt8.ofNat_toNat, UInt8.ofNat_toNat]; rfl
  · rename_i b0 v0 _ b1 v1 _ b2 v2 _ b3 r v3 h0 h
    obtain ⟨q1, q2, q3, q4, q5, q6⟩ :=
      join4 v0 v1 v2 v3 h0 ((second_iff (by decide) (by decide)).mp ⟨h.1, h.2.1⟩)
        ⟨h.2.2.1, h.2.2.2.1⟩ h.2.2.2.2
    rw [enc4 _ q1 q2, q3, q4, q5, q6, UInt8.ofNat_toNat, UInt8.ofNat_toNat, UInt8.ofNat_toNat,
      UInt8.ofNat_toNat]; rfl

theorem split2 (v : Nat) (h1 : 0x80 ≤ v) (h2 : v ≤ 0x7ff) :
    let a := v / 64 % 32 + 0xc0; let b := v % 64 + 0x80
    a < 256 ∧ b < 256 ∧ (0xC2 ≤ a ∧ a ≤ 0xDF) ∧ (0x80 ≤ b ∧ b ≤ 0xBF) ∧ a % 32 * 64 + b % 64 = v := by
  intro a b; omega

-- `omega` is several times quicker on `v / 64 / 64` than on `v / 4096`
theorem div_4096 (v : Nat) : v / 4096 = v / 64 / 64 := by rw [Nat.div_div_eq_div_mul]

theorem split3 (v : Nat) (h1 : 0x800 ≤ v) (h2 : v ≤ 0xffff) (h3 : v < 0xd800 ∨ 0xdfff < v) :
    let a := v / 4096 % 16 + 0xe0; let b := v / 64 % 64 + 0x80; let c := v % 64 + 0x80
    a < 256 ∧ b < 256 ∧ c < 256 ∧ (0xE0 ≤ a ∧ a ≤ 0xEF) ∧
    ((0x80 ≤ b ∧ b ≤ 0xBF) ∧ (a = 0xE0 → 0xA0 ≤ b) ∧ (a = 0xED → b ≤ 0x9F)) ∧
    (0x80 ≤ c ∧ c ≤ 0xBF) ∧ a % 16 * 4096 + b % 64 * 64 + c % 64 = v := by
  rw [div_4096]; intro a b c; omega

theorem split4 (v : Nat) (h1 : 0x10000 ≤ v) (h2 : v ≤ 0x10ffff) :
    let a := v / 262144 % 8 + 0xf0; let b := v / 4096 % 64 + 0x80
    let c := v / 64 % 64 + 0x80; let d := v % 64 + 0x80
    a < 256 ∧ b < 256 ∧ c < 256 ∧ d < 256 ∧ (0xF0 ≤ a ∧ a ≤ 0xF4) ∧
    ((0x80 ≤ b ∧ b ≤ 0xBF) ∧ (a = 0xF0 → 0x90 ≤ b) ∧ (a = 0xF4 → b ≤ 0x8F)) ∧
    (0x80 ≤ c ∧ c ≤ 0xBF) ∧ (0x80 ≤ d ∧ d ≤ 0xBF) ∧
    a % 8 * 262144 + b % 64 * 4096 + c % 64 * 64 + d % 64 = v := by
  rw [div_4096, show v / 262144 = v / 64 / 64 / 64 by rw [Nat.div_div_eq_div_mul, Nat.div_div_eq_div_mul]]
  intro a b c d; omega

theorem utf8EncodeChar_wf (c : Char) :
    (∃ b0, String.utf8EncodeChar c = [b0] ∧ b0.toNat < 0x80 ∧ b0.toNat = c.toNat) ∨
    (∃ b0 b1, String.utf8EncodeChar c = [b0, b1] ∧ (0xC2 ≤ b0.toNat ∧ b0.toNat ≤ 0xDF) ∧
      (0x80 ≤ b1.toNat ∧ b1.toNat ≤ 0xBF) ∧ b0.toNat % 32 * 64 + b1.toNat % 64 = c.toNat) ∨
    (∃ b0 b1 b2, String.utf8EncodeChar c = [b0, b1, b2] ∧ (0xE0 ≤ b0.toNat ∧ b0.toNat ≤ 0xEF) ∧
      ((0x80 ≤ b1.toNat ∧ b1.toNat ≤ 0xBF) ∧ (b0.toNat = 0xE0 → 0xA0 ≤ b1.toNat) ∧
        (b0.toNat = 0xED → b1.toNat ≤ 0x9F)) ∧
      (0x80 ≤ b2.toNat ∧ b2.toNat ≤ 0xBF) ∧
      b0.toNat % 16 * 4096 + b1.toNat % 64 * 64 + b2.toNat % 64 = c.toNat) ∨
    (∃ b0 b1 b2 b3, String.utf8EncodeChar c = [b0, b1, b2, b3] ∧ (0xF0 ≤ b0.toNat ∧ b0.toNat ≤ 0xF4) ∧
      ((0x80 ≤ b1.toNat ∧ b1.toNat ≤ 0xBF) ∧ (b0.toNat = 0xF0 → 0x90 ≤ b1.toNat) ∧
        (b0.toNat = 0xF4 → b1.toNat ≤ 0x8F)) ∧
      (0x80 ≤ b2.toNat ∧ b2.toNat ≤ 0xBF) ∧ (0x80 ≤ b3.toNat ∧ b3.toNat ≤ 0xBF) ∧
      b0.toNat % 8 * 262144 + b1.toNat % 64 * 4096 + b2.toNat % 64 * 64 + b3.toNat % 64 = c.toNat) := by
  have hvalid : c.toNat < 0xd800 ∨ (0xdfff < c.toNat ∧ c.toNat < 0x110000) := c.valid
  have hc : (Char.ofNat c.toNat).toNat = c.toNat := by rw [Char.ofNat_toNat]
  rw [← Char.ofNat_toNat c, hc]
  generalize c.toNat = v at *
  by_cases h1 : v < 0x80
  · have lv := tn v (by omega)
    exact .inl ⟨_, enc1 v h1, by rwa [lv], lv⟩
  by_cases h2 : v ≤ 0x7ff
  · have l : 0x80 ≤ v := by omega
    obtain ⟨la, lb, ha, hb, e⟩ := split2 v l h2
    rw [← tn _ la] at ha e; rw [← tn _ lb] at hb e
    exact .inr (.inl ⟨_, _, enc2 v l h2, ha, hb, e⟩)
  by_cases h3 : v ≤ 0xffff
  · have l : 0x800 ≤ v := by omega
    have s : v < 0xd800 ∨ 0xdfff < v := by omega
    obtain ⟨la, lb, lc, ha, hb, hc, e⟩ := split3 v l h3 s
    rw [← tn _ la] at ha hb e; rw [← tn _ lb] at hb e; rw [← tn _ lc] at hc e
    exact .inr (.inr (.inl ⟨_, _, _, enc3 v l h3 s, ha, hb, hc, e⟩))
  · have l : 0x10000 ≤ v := by omega
    have u : v ≤ 0x10ffff := by omega
    obtain ⟨la, lb, lc, ld, ha, hb, hc, hd, e⟩ := split4 v l u
    rw [← tn _ la] at ha hb e; rw [← tn _ lb] at hb e; rw [← tn _ lc] at hc e; rw [← tn _ ld] at hd e
    exact .inr (.inr (.inr ⟨_, _, _, _, enc4 v l u, ha, hb, hc, hd, e⟩))

theorem utf8Decode_encodeChar (c : Char) (r : List UInt8) :
    utf8Decode (String.utf8EncodeChar c ++ r) = (utf8Decode r).map (c :: ·) := by
  rcases utf8EncodeChar_wf c with ⟨b0, e, h, hc⟩ | ⟨b0, b1, e, h0, h1, hc⟩ |
    ⟨b0, b1, b2, e, h0, h1, h2, hc⟩ | ⟨b0, b1, b2, b3, e, h0, h1, h2, h3, hc⟩
  all_goals rw [e]; simp only [List.cons_append, List.nil_append]
  · rw [dec1 _ _ h, hc, Char.ofNat_toNat]
  · rw [dec2 _ _ _ h0 h1, hc, Char.ofNat_toNat]
  · rw [dec3 _ _ _ _ h0 h1 h2, hc, Char.ofNat_toNat]
  · rw [dec4 _ _ _ _ _ h0 h1 h2 h3, hc, Char.ofNat_toNat]

theorem utf8EncodeChar_of_lt (c : Char) (h : c.toNat < 0x80) :
    String.utf8EncodeChar c = [UInt8.ofNat c.toNat] := by
  have := enc1 c.toNat h
  rwa [Char.ofNat_toNat] at this

theorem utf8EncodeChar_ge (c : Char) (h : 0x80 ≤ c.toNat) : ∀ b ∈ String.utf8EncodeChar c, 0x80 ≤ b.toNat := by
  intro b hb
  rcases utf8EncodeChar_wf c with ⟨b0, e, _, _⟩ | ⟨b0, b1, e, _, _, _⟩ |
    ⟨b0, b1, b2, e, _, _, _, _⟩ | ⟨b0, b1, b2, b3, e, _, _, _, _, _⟩
  all_goals
    rw [e] at hb
    simp only [List.mem_cons, List.not_mem_nil, or_false] at hb
  · omega
  · rcases hb with rfl | rfl <;> omega
  · rcases hb with rfl | rfl | rfl <;> omega
  · rcases hb with rfl | rfl | rfl | rfl <;> omega

theorem utf8Decode_utf8 (cs : List Char) : utf8Decode (utf8 cs) = some cs := by
  induction cs with
  | nil => rfl
  | cons c cs ih =>
    simp only [utf8, List.flatMap_cons] at ih ⊢
    rw [utf8Decode_encodeChar, ih]; rfl

theorem utf8Decode_eq_some_iff (bs : List UInt8) (cs : List Char) : utf8Decode bs = some cs ↔ utf8 cs = bs :=
  ⟨utf8Decode_sound bs cs, fun h => h ▸ utf8Decode_utf8 cs⟩

end Scrut.Utf8
