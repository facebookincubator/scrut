import ScrutModel.Model.Pretty
import ScrutModel.Lemmas.DiffWF
/-!
The renderers: every difference is shown, the checked arithmetic of the pretty renderer cannot fail on a
result of the matcher, trailing white space is cut at a character boundary, and only failed outcomes get
a section.
-/
namespace Scrut.Pretty
open Scrut.Diff (DL)

theorem itemsGo_shows (msl : Nat) : ∀ (d : List DL) (k : Nat) (last : Option Nat),
    (∀ i, DL.unmatched i ∈ d → Item.unm i ∈ itemsGo msl d k last) ∧
    (∀ ls l, DL.unexpected ls ∈ d → l ∈ ls → Item.unx l ∈ itemsGo msl d k last) := by
  intro d
  induction d with
  | nil => intro k last; exact ⟨fun _ h => (nomatch h), fun _ _ h _ => (nomatch h)⟩
  | cons e rest ih =>
    intro k last
    -- the items of `e` come first, those of `rest` follow
    cases e with
    | matched j ls' =>
      have := ih (k+1) last
      simp only [itemsGo, List.mem_cons, List.mem_append, reduceCtorEq, false_or]
      exact ⟨fun i h => .inr (this.1 i h), fun ls l h hl => .inr (this.2 ls l h hl)⟩
    | unmatched j =>
      have := ih (k+1) (some k)
      simp only [itemsGo, List.mem_cons, reduceCtorEq, false_or, DL.unmatched.injEq, Item.unm.injEq]
      exact ⟨fun i h => h.imp id (this.1 i), this.2⟩
    | unexpected ls' =>
      have := ih (k+1) (if ls'.isEmpty then last else some k)
      simp only [itemsGo, List.mem_cons, List.mem_append, reduceCtorEq, false_or, DL.unexpected.injEq]
      refine ⟨fun i h => .inr (this.1 i h), fun ls l h hl => ?_⟩
      rcases h with rfl | h
      · exact .inl (List.mem_map_of_mem hl)
      · exact .inr (this.2 ls l h hl)

def Item.From (d : List DL) : Item → Prop
  | .ctx i ls => DL.matched i ls ∈ d
  | .ell => True
  | .unm i => DL.unmatched i ∈ d
  | .unx l => ∃ ls, DL.unexpected ls ∈ d ∧ l ∈ ls

theorem Item.From.mono {d : List DL} {e : DL} {x : Item} (h : Item.From d x) : Item.From (e :: d) x := by
  cases x with
  | ctx i ls => exact List.mem_cons_of_mem _ h
  | ell => trivial
  | unm i => exact List.mem_cons_of_mem _ h
  | unx l => obtain ⟨ls, h1, h2⟩ := h; exact ⟨ls, List.mem_cons_of_mem _ h1, h2⟩

theorem mem_ctxItems {s f : Bool} {i : Nat} {ls : List Nat} {x : Item} (h : x ∈ ctxItems s f i ls) :
    x = Item.ctx i ls ∨ x = Item.ell := by
  unfold ctxItems at h
  cases s <;> cases f <;> simp at h <;> simp [h]

theorem itemsGo_sound (msl : Nat) :
    ∀ (d : List DL) (k : Nat) (last : Option Nat), ∀ x ∈ itemsGo msl d k last, Item.From d x := by
  intro d
  induction d with
  | nil => intro k last x h; simp [itemsGo] at h
  | cons e rest ih =>
    intro k last x h
    cases e with
    | matched j ls =>
      simp only [itemsGo, List.mem_append] at h
      rcases h with h | h
      · rcases mem_ctxItems h with h | h
        · subst h; exact List.mem_cons_self
        · subst h; trivial
      · exact (ih _ _ x h).mono
    | unmatched j =>
      simp only [itemsGo, List.mem_cons] at h
      rcases h with h | h
      · subst h; exact List.mem_cons_self
      · exact (ih _ _ x h).mono
    | unexpected ls =>
      simp only [itemsGo, List.mem_append, List.mem_map] at h
      rcases h with ⟨l, hl, rfl⟩ | h
      · exact ⟨ls, List.mem_cons_self, hl⟩
      · exact (ih _ _ x h).mono

theorem digits_pos (n : Nat) : 1 ≤ digits n := by
  unfold digits; split <;> omega

theorem digits_mono : ∀ (a b : Nat), a ≤ b → digits a ≤ digits b := by
  intro a
  induction a using Nat.strongRecOn with
  | _ a ih =>
    intro b hab
    by_cases ha : a < 10
    · rw [digits.eq_1 a]; simp only [ha, if_true]; exact digits_pos b
    · have hb : ¬ b < 10 := by omega
      rw [digits.eq_1 a, digits.eq_1 b]; simp only [ha, hb, if_false]
      have := ih (a / 10) (by omega) (b / 10) (Nat.div_le_div_right hab)
      omega

theorem pad_some {w num : Nat} (h : digits num ≤ w) : ∃ p, pad w num = some p := by
  unfold pad
  split
  · exact ⟨w - 0, if_pos (Nat.zero_le w)⟩
  · exact ⟨w - digits num, if_pos h⟩

theorem allSome_isSome {α β : Type} (f : α → Option β) :
    ∀ (l : List α), (∀ x ∈ l, (f x).isSome) → (allSome (l.map f)).isSome := by
  intro l
  induction l with
  | nil => intro _; rfl
  | cons a r ih =>
    intro h
    obtain ⟨b, hb⟩ := Option.isSome_iff_exists.1 (h a List.mem_cons_self)
    obtain ⟨bs, hbs⟩ := Option.isSome_iff_exists.1 (ih fun x hx => h x (List.mem_cons_of_mem _ hx))
    simp only [List.map, hb, allSome, hbs]; rfl

theorem allSome_mem {α β : Type} (f : α → Option β) :
    ∀ (l : List α) (r : List β), allSome (l.map f) = some r → ∀ x ∈ l, ∃ y, f x = some y ∧ y ∈ r := by
  intro l
  induction l with
  | nil => intro r _ x hx; cases hx
  | cons a t ih =>
    intro r h x hx
    cases hfa : f a with
    | none => simp [allSome, hfa] at h
    | some b =>
      simp only [List.map, hfa, allSome] at h
      obtain ⟨r', ht, rfl⟩ := Option.map_eq_some_iff.1 h
      rcases List.mem_cons.1 hx with rfl | hx
      · exact ⟨b, hfa, List.mem_cons_self⟩
      · obtain ⟨y, hy1, hy2⟩ := ih r' ht x hx
        exact ⟨y, hy1, List.mem_cons_of_mem _ hy2⟩

theorem addU_isSome {a b : Nat} (h : a + b < USIZE) : (addU a b).isSome := by
  rw [addU, if_pos h]; rfl

theorem mslOk_of_bound (msl : Nat) :
    ∀ (d : List DL) (k : Nat) (last : Option Nat), (∀ l, last = some l → l < k) →
      msl + (k + d.length) < USIZE → mslOk msl d k last = true := by
  intro d
  induction d with
  | nil => intro _ _ _ _; rfl
  | cons e rest ih =>
    intro k last hl hb
    rw [List.length_cons] at hb
    -- positions only grow, and the largest sum formed is `msl + k`
    have hk : msl + (k + 1 + rest.length) < USIZE := Nat.add_right_comm k 1 _ ▸ hb
    cases e with
    | matched j ls =>
      simp only [mslOk, Bool.and_eq_true, Bool.or_eq_true]
      refine ⟨.inr ⟨?_, ?_⟩, ih _ _ (fun l h => Nat.lt_succ_of_lt (hl l h)) hk⟩
      · cases last with
        | none => rfl
        | some l => exact addU_isSome (by have := hl l rfl; omega)
      · cases nextErr rest (k + 1) with
        | none => rfl
        | some _ => exact addU_isSome (by omega)
    | unmatched j => exact ih _ _ (fun l h => by cases h; exact Nat.lt_succ_self k) hk
    | unexpected ls =>
      refine ih _ _ (fun l h => ?_) hk
      split at h
      · exact Nat.lt_succ_of_lt (hl l h)
      · cases h; exact Nat.lt_succ_self k

/-- what the padding and `lines[0]` need from a diff (decidable; implied by C02's `WF`) -/
def EntryOk (ml : Nat → Bool) (nexp cnt : Nat) : DL → Prop
  | .matched i ls => i < nexp ∧ (ml i = false → ls ≠ []) ∧ ∀ l ∈ ls, l < cnt
  | .unmatched i => i < nexp
  | .unexpected ls => ∀ l ∈ ls, l < cnt

def Dom (c : Cfg) (d : List DL) : Prop :=
  (c.abs = true → 1 ≤ c.lineNumber + c.shellLines) ∧
  c.msl + d.length < USIZE ∧
  ∀ e ∈ d, EntryOk c.ml c.nexp (countOut d) e

instance (ml : Nat → Bool) (nexp cnt : Nat) : DecidablePred (EntryOk ml nexp cnt) := by
  intro e; cases e <;> unfold EntryOk <;> infer_instance

instance (c : Cfg) (d : List DL) : Decidable (Dom c d) := by
  unfold Dom; infer_instance

theorem display_isSome (ml : Nat → Bool) (base nexp : Nat) (d : List DL)
    (hd : ∀ e ∈ d, EntryOk ml nexp (countOut d) e) (x : Item) (hx : Item.From d x) :
    (display ml base (width base nexp d) x).isSome := by
  -- the column is as wide as the largest number that can occur
  have key : ∀ v, v < max (countOut d) nexp → ∃ p, pad (width base nexp d) (base + v + 1) = some p :=
    fun v hv => pad_some (digits_mono _ _ (Nat.add_le_add_left hv base))
  have line : ∀ l, l < countOut d → l < max (countOut d) nexp := fun l h => Nat.lt_of_lt_of_le h (Nat.le_max_left ..)
  have idx : ∀ i, i < nexp → i < max (countOut d) nexp := fun i h => Nat.lt_of_lt_of_le h (Nat.le_max_right ..)
  cases x with
  | ell => rfl
  | unm i =>
    obtain ⟨p, hp⟩ := key i (idx i (hd _ hx))
    simp only [display, hp, Option.map_some, Option.isSome_some]
  | unx l =>
    obtain ⟨ls, h1, h2⟩ := hx
    obtain ⟨p, hp⟩ := key l (line l (hd _ h1 l h2))
    simp only [display, hp, Option.map_some, Option.isSome_some]
  | ctx i ls =>
    obtain ⟨hi, hne, hls⟩ := hd _ hx
    obtain ⟨p, hp⟩ := key i (idx i hi)
    cases hm : ml i with
    | true =>
      have hq : pad (width base nexp d) 0 = some (width base nexp d) := by simp [pad, subU]
      simp [display, hm, hp, hq]
    | false =>
      cases ls with
      | nil => exact absurd rfl (hne hm)
      | cons l0 _ =>
        obtain ⟨q, hq⟩ := key l0 (line l0 (hls l0 List.mem_cons_self))
        simp [display, hm, hp, hq]

theorem prettyRender_isSome (c : Cfg) (d : List DL) (h : Dom c d) : (prettyRender c d).isSome := by
  obtain ⟨h1, h2, h3⟩ := h
  unfold prettyRender
  have hb : ∃ b, lineBase c = some b := by
    unfold lineBase subU
    by_cases ha : c.abs = true
    · have := h1 ha; simp [ha, this]
    · simp [ha]
  obtain ⟨b, hb⟩ := hb
  simp only [hb, mslOk_of_bound c.msl d 0 none (fun l h => nomatch h) (by omega), if_true, Option.isSome_map]
  exact allSome_isSome _ _ fun x hx => display_isSome c.ml b c.nexp d h3 x (itemsGo_sound c.msl d 0 none x hx)

theorem rendered_shows (c : Cfg) (d : List DL) (w : Nat) (lines : List Line)
    (h : prettyRender c d = some (w, lines)) :
    ∃ base, lineBase c = some base ∧
      (∀ i, DL.unmatched i ∈ d → Line.unm (base + i + 1) (c.ml i) ∈ lines) ∧
      (∀ ls l, DL.unexpected ls ∈ d → l ∈ ls → Line.unx (base + l + 1) ∈ lines) := by
  unfold prettyRender at h
  cases hb : lineBase c with
  | none => rw [hb] at h; cases h
  | some base =>
    rw [hb] at h
    dsimp only at h
    split at h
    · obtain ⟨r, ha, hr⟩ := Option.map_eq_some_iff.1 h
      cases hr
      -- every item is displayed; the displayed form of a `-` or `+` item is the line claimed
      refine ⟨base, rfl, fun i hi => ?_, fun ls l h1 h2 => ?_⟩
      · obtain ⟨y, hy1, hy2⟩ := allSome_mem _ _ _ ha (Item.unm i) ((itemsGo_shows c.msl d 0 none).1 i hi)
        obtain ⟨_, _, rfl⟩ := Option.map_eq_some_iff.1 hy1
        exact hy2
      · obtain ⟨y, hy1, hy2⟩ := allSome_mem _ _ _ ha (Item.unx l) ((itemsGo_shows c.msl d 0 none).2 ls l h1 h2)
        obtain ⟨_, _, rfl⟩ := Option.map_eq_some_iff.1 hy1
        exact hy2
    · cases h

theorem countOut_eq (d : List DL) : countOut d = (Scrut.Diff.linesOf d).length := by
  induction d with
  | nil => rfl
  | cons e r ih => cases e <;> simp [countOut, ih]

theorem dom_of_WF (n m : Nat) (es : Nat → Scrut.Diff.Exp) (mt : Nat → Nat → Bool) (d : List DL)
    (wf : Scrut.Diff.WF n m es mt d) (msl : Nat) (abs : Bool) (lineNumber shellLines : Nat)
    (hs : abs = true → 1 ≤ lineNumber + shellLines) (hm : msl + d.length < USIZE) :
    Dom { msl, abs, lineNumber, shellLines, nexp := n, ml := fun i => (es i).multiline } d := by
  refine ⟨hs, hm, ?_⟩
  intro e he
  have hcnt : countOut d = m := by
    rw [countOut_eq, wf.cover, Scrut.Diff.rangeFrom_zero, List.length_range]
  have hline : ∀ l ∈ e.lines, l < countOut d := fun l hl => by
    have := Scrut.Diff.mem_linesOf.2 ⟨e, he, hl⟩
    rw [wf.cover] at this
    exact hcnt ▸ (Scrut.Diff.mem_rangeFrom.1 this).2
  have hidx : ∀ i ∈ e.idx, i < n := fun i hi => wf.idx_lt i (Scrut.Diff.mem_idxOf.2 ⟨e, he, hi⟩)
  have hg := wf.good e he
  cases e with
  | matched i ls => exact ⟨hidx i List.mem_cons_self, fun _ => hg.2.1, hline⟩
  | unmatched i => exact hidx i List.mem_cons_self
  | unexpected ls => exact hline

/-- the expectations on the `-` lines and the output lines on the `+` lines of a unified diff, in order -/
def minusOf (es : List UE) : List Nat := es.filterMap fun | .minus i => some i | _ => none
def plusOf (es : List UE) : List Nat := es.filterMap fun | .plus l => some l | _ => none
/-- the unmatched expectations and the lines of the unexpected blocks of a diff, in order -/
def unmOf (d : List DL) : List Nat := d.filterMap fun | .unmatched i => some i | _ => none
def unxOf (d : List DL) : List Nat := d.flatMap fun | .unexpected ls => ls | _ => []

theorem minusOf_lines (us xs : List Nat) : minusOf (us.map UE.minus ++ xs.map UE.plus) = us := by
  simp [minusOf, List.filterMap_append, List.filterMap_map, Function.comp_def]
theorem plusOf_lines (us xs : List Nat) : plusOf (us.map UE.minus ++ xs.map UE.plus) = xs := by
  simp [plusOf, List.filterMap_append, List.filterMap_map, Function.comp_def]

/-- lines are collected only after their start has been recorded -/
def US.Inv (s : US) : Prop := (s.ustart = none → s.ulines = []) ∧ (s.xstart = none → s.xlines = [])

theorem hunk_lines (ln : Nat) (s : US) (h : s.Inv) :
    minusOf (hunk ln s) = s.ulines ∧ plusOf (hunk ln s) = s.xlines := by
  unfold hunk
  cases hu : s.ustart with
  | some u => exact ⟨minusOf_lines .., plusOf_lines ..⟩
  | none =>
    cases hx : s.xstart with
    | some x => exact ⟨minusOf_lines .., plusOf_lines ..⟩
    | none => rw [h.1 hu, h.2 hx]; exact ⟨rfl, rfl⟩

theorem flushed_inv (s : US) (h : s.Inv) :
    (flushed s).Inv ∧ (flushed s).ulines = [] ∧ (flushed s).xlines = [] := by
  unfold flushed
  split
  · exact ⟨⟨fun _ => rfl, fun _ => rfl⟩, rfl, rfl⟩
  · rename_i hn
    simp only [Bool.or_eq_true, not_or, Option.not_isSome_iff_eq_none] at hn
    exact ⟨h, h.1 hn.1, h.2 hn.2⟩

theorem unifiedGo_lines (ln : Nat) : ∀ (d : List DL) (ei : Nat) (s : US), s.Inv →
    minusOf (unifiedGo ln d ei s) = s.ulines ++ unmOf d ∧ plusOf (unifiedGo ln d ei s) = s.xlines ++ unxOf d := by
  intro d
  induction d with
  | nil =>
    intro ei s hs
    rw [unmOf, unxOf, List.filterMap_nil, List.flatMap_nil, List.append_nil, List.append_nil]
    exact hunk_lines ln s hs
  | cons e rest ih =>
    intro ei s hs
    -- a flush puts out what has been collected and starts from nothing
    have flush : ∀ (s : US) (ei : Nat), s.Inv →
        minusOf (hunk ln s ++ unifiedGo ln rest ei (flushed s)) = s.ulines ++ unmOf rest ∧
        plusOf (hunk ln s ++ unifiedGo ln rest ei (flushed s)) = s.xlines ++ unxOf rest := fun s ei hs => by
      have h1 := hunk_lines ln s hs
      obtain ⟨hf, hu, hx⟩ := flushed_inv s hs
      have h2 := ih ei _ hf
      rw [hu, hx] at h2
      rw [minusOf, plusOf, List.filterMap_append, List.filterMap_append]
      exact ⟨congr (congrArg _ h1.1) h2.1, congr (congrArg _ h1.2) h2.2⟩
    cases e with
    | matched j ls => exact flush s j hs
    | unmatched j =>
      have hinv : US.Inv { s with ustart := s.ustart.orElse fun _ => some j, ulines := s.ulines ++ [j] } :=
        ⟨fun h => by cases hu : s.ustart <;> simp [hu, Option.orElse] at h, hs.2⟩
      have := ih j _ hinv
      rw [List.append_assoc] at this
      exact this
    | unexpected ls =>
      have hinv : US.Inv { s with xstart := s.xstart.orElse fun _ => some ei, xlines := s.xlines ++ ls } :=
        ⟨hs.1, fun h => by cases hx : s.xstart <;> simp [hx, Option.orElse] at h⟩
      have assoc : (s.xlines ++ ls) ++ unxOf rest = s.xlines ++ unxOf (DL.unexpected ls :: rest) :=
        List.append_assoc ..
      rw [unifiedGo, ← assoc]
      split
      · exact flush _ ei hinv
      · exact ih ei _ hinv

theorem of_mem_minusOf {es : List UE} {i : Nat} (h : i ∈ minusOf es) : UE.minus i ∈ es := by
  obtain ⟨x, hx, hi⟩ := List.mem_filterMap.1 h
  cases x <;> cases hi
  exact hx

theorem of_mem_plusOf {es : List UE} {l : Nat} (h : l ∈ plusOf es) : UE.plus l ∈ es := by
  obtain ⟨x, hx, hl⟩ := List.mem_filterMap.1 h
  cases x <;> cases hl
  exact hx

theorem utf8Len_append (a b : List Char) : utf8Len (a ++ b) = utf8Len a + utf8Len b := by
  induction a with
  | nil => simp [utf8Len]
  | cons c r ih => simp [utf8Len, ih]; omega

theorem splitAtByte_append (p s : List Char) : splitAtByte (p ++ s) (utf8Len p) = some (p, s) := by
  induction p with
  | nil => cases s <;> simp [splitAtByte, utf8Len]
  | cons c r ih =>
    have hc : 0 < c.utf8Size := Char.utf8Size_pos c
    simp only [List.cons_append, splitAtByte, utf8Len]
    have h0 : ¬ (c.utf8Size + utf8Len r = 0) := by omega
    have h1 : c.utf8Size ≤ c.utf8Size + utf8Len r := by omega
    simp only [h0, h1, if_true, if_false, Nat.add_sub_cancel_left, ih, Option.map]

theorem trim_append_trailing (cs : List Char) : trimEndWs cs ++ trailingWs cs = cs := by
  unfold trimEndWs trailingWs
  rw [← List.reverse_append, List.takeWhile_append_dropWhile, List.reverse_reverse]

theorem split_at_spaceStart (cs : List Char) :
    splitAtByte cs (spaceStartIndex cs) = some (trimEndWs cs, trailingWs cs) := by
  have := splitAtByte_append (trimEndWs cs) (trailingWs cs)
  rw [trim_append_trailing] at this
  exact this

theorem highlight_eq (cs : List Char) :
    highlight cs = some (trimEndWs cs ++ (trailingWs cs).map renderSpace) := by
  unfold highlight
  simp only [split_at_spaceStart, Option.map]
  split
  · rfl
  · -- the index is the length: nothing trails, and the text is its own trimmed form
    rename_i h
    have hlen : utf8Len cs = spaceStartIndex cs + utf8Len (trailingWs cs) := by
      rw [spaceStartIndex, ← utf8Len_append, trim_append_trailing]
    have ht : trailingWs cs = [] := by
      cases htr : trailingWs cs with
      | nil => rfl
      | cons c r =>
        have hc := Char.utf8Size_pos c
        rw [htr, utf8Len] at hlen
        omega
    have := trim_append_trailing cs
    rw [ht, List.append_nil] at this
    rw [ht, this, List.map_nil, List.append_nil]

theorem mem_prettySections {os : List OC} {p : Nat} :
    p ∈ prettySections os ↔ ∃ o ∈ os, o.pos = p ∧ o.kind ≠ .ok ∧ o.kind ≠ .skipped := by
  simp only [prettySections, List.mem_map, List.mem_filter, Bool.and_eq_true, bne_iff_ne, ne_eq]
  exact ⟨fun ⟨o, ⟨ho, hk⟩, hp⟩ => ⟨o, ho, hp, hk⟩, fun ⟨o, ho, hp, hk⟩ => ⟨o, ⟨ho, hk⟩, hp⟩⟩

theorem diffSections_not_pass (os : List OC) (l : List Nat) (h : diffSections os = some l) (p : Nat) (hp : p ∈ l) :
    ∃ o ∈ os, o.pos = p ∧ (o.kind = .malformed ∨ o.kind = .exitcode ∨ o.kind = .internal) := by
  unfold diffSections at h
  dsimp only at h
  split at h
  · cases h
  · cases h
    obtain ⟨o, ho, rfl⟩ := List.mem_map.1 hp
    obtain ⟨ho, hk⟩ := List.mem_filter.1 ho
    refine ⟨o, ?_, rfl, by simpa [or_assoc] using hk⟩
    -- sorting keeps the members
    split at ho
    · exact List.mem_mergeSort.1 ho
    · exact ho

end Scrut.Pretty
