import ScrutModel.Model.Diff
/-!
Index ranges (`rangeFrom` is `List.range'` in disguise), the lines and expectations a result mentions
(`linesOf`, `idxOf`) and the block `unmatchedOf` of skipped expectations.
-/
namespace Scrut.Diff

theorem rangeFrom_eq_range' (a b : Nat) : rangeFrom a b = List.range' a (b - a) := by
  simp only [rangeFrom, List.range'_eq_map_range, Nat.add_comm]

theorem rangeFrom_zero (m : Nat) : rangeFrom 0 m = List.range m := by
  rw [rangeFrom_eq_range', List.range_eq_range']; rfl

theorem mem_rangeFrom {a b x : Nat} : x ∈ rangeFrom a b ↔ a ≤ x ∧ x < b := by
  rw [rangeFrom_eq_range', List.mem_range'_1]; omega

theorem rangeFrom_append {a b c : Nat} (h1 : a ≤ b) (h2 : b ≤ c) :
    rangeFrom a b ++ rangeFrom b c = rangeFrom a c := by
  simp only [rangeFrom_eq_range']
  rw [← Nat.sub_add_sub_cancel h2 h1, Nat.add_comm (c - b), ← List.range'_append_1, Nat.add_sub_cancel' h1]

@[simp] theorem rangeFrom_self (a : Nat) : rangeFrom a a = [] := by
  rw [rangeFrom_eq_range', Nat.sub_self]; rfl
theorem rangeFrom_succ (a : Nat) : rangeFrom a (a+1) = [a] := by
  rw [rangeFrom_eq_range', Nat.add_sub_cancel_left]; rfl

theorem rangeFrom_pairwise (a b : Nat) : (rangeFrom a b).Pairwise (· < ·) := by
  rw [rangeFrom_eq_range']; exact List.pairwise_lt_range'

theorem rangeFrom_ne_nil {a b : Nat} (h : a < b) : rangeFrom a b ≠ [] :=
  List.ne_nil_of_mem (mem_rangeFrom.2 ⟨Nat.le_refl a, h⟩)

def DL.lines : DL → List Nat
  | .matched _ ls => ls
  | .unmatched _ => []
  | .unexpected ls => ls
def DL.idx : DL → List Nat
  | .matched i _ => [i]
  | .unmatched i => [i]
  | .unexpected _ => []

def linesOf (acc : List DL) : List Nat := acc.flatMap DL.lines
def idxOf (acc : List DL) : List Nat := acc.flatMap DL.idx

attribute [simp] DL.lines DL.idx

@[simp] theorem linesOf_nil : linesOf [] = [] := rfl
@[simp] theorem idxOf_nil : idxOf [] = [] := rfl
@[simp] theorem linesOf_cons (x : DL) (d : List DL) : linesOf (x :: d) = x.lines ++ linesOf d :=
  List.flatMap_cons
@[simp] theorem idxOf_cons (x : DL) (d : List DL) : idxOf (x :: d) = x.idx ++ idxOf d :=
  List.flatMap_cons
@[simp] theorem linesOf_append (a b : List DL) : linesOf (a ++ b) = linesOf a ++ linesOf b :=
  List.flatMap_append
@[simp] theorem idxOf_append (a b : List DL) : idxOf (a ++ b) = idxOf a ++ idxOf b :=
  List.flatMap_append

theorem mem_linesOf {d : List DL} {l : Nat} : l ∈ linesOf d ↔ ∃ e ∈ d, l ∈ e.lines := List.mem_flatMap
theorem mem_idxOf {d : List DL} {i : Nat} : i ∈ idxOf d ↔ ∃ e ∈ d, i ∈ e.idx := List.mem_flatMap

variable (es : Nat → Exp)

theorem mem_unmatchedOf {a b : Nat} {d : DL} :
    d ∈ unmatchedOf es a b ↔ ∃ i, a ≤ i ∧ i < b ∧ (es i).optional = false ∧ .unmatched i = d := by
  simp only [unmatchedOf, List.mem_map, List.mem_filter, mem_rangeFrom, Bool.not_eq_true', and_assoc]

theorem unmatchedOf_succ (a : Nat) :
    unmatchedOf es a (a+1) = if (es a).optional then [] else [DL.unmatched a] := by
  cases h : (es a).optional <;> simp [unmatchedOf, rangeFrom_succ, h]

theorem unmatchedOf_eq_nil {a b : Nat} (h : ∀ t, a ≤ t → t < b → (es t).optional = true) :
    unmatchedOf es a b = [] := by
  simp only [unmatchedOf, List.map_eq_nil_iff, List.filter_eq_nil_iff]
  intro t ht
  have := mem_rangeFrom.1 ht
  simp [h t this.1 this.2]

@[simp] theorem linesOf_unmatchedOf (a b : Nat) : linesOf (unmatchedOf es a b) = [] := by
  simp [linesOf, unmatchedOf, List.flatMap_map]
@[simp] theorem idxOf_unmatchedOf (a b : Nat) :
    idxOf (unmatchedOf es a b) = (rangeFrom a b).filter (fun i => !(es i).optional) := by
  simp [idxOf, unmatchedOf, List.flatMap_map]

end Scrut.Diff
