import ScrutModel.Lemmas.DiffC03

namespace Scrut.Diff

variable (n m : Nat) (es : Nat → Exp) (mt : Nat → Nat → Bool)

theorem sorted_mono {a : List Nat} (hs : a.Pairwise (· ≤ ·)) {p q : Nat} (hp : p < a.length)
    (hq : q < a.length) (hpq : p ≤ q) : a[p] ≤ a[q] := by
  rcases Nat.eq_or_lt_of_le hpq with rfl | h
  · exact Nat.le_refl _
  · exact List.pairwise_iff_getElem.1 hs p q hp hq h

theorem sorted_gap {a : List Nat} (hs : a.Pairwise (· ≤ ·)) {j t : Nat} (hjl : j ≤ a.length)
    (hlo : ∀ (h : j - 1 < a.length), 0 < j → a[j-1] < t) (hhi : ∀ (h : j < a.length), t < a[j]) :
    t ∉ a := by
  intro hmem
  obtain ⟨p, hp, rfl⟩ := List.getElem_of_mem hmem
  by_cases hpj : p < j
  · have h0 : 0 < j := Nat.zero_lt_of_lt hpj
    have h1 : j - 1 < a.length := Nat.lt_of_lt_of_le (Nat.sub_lt h0 Nat.one_pos) hjl
    exact Nat.lt_irrefl _ (Nat.lt_of_lt_of_le (hlo h1 h0) (sorted_mono hs hp h1 (Nat.le_sub_one_of_lt hpj)))
  · have hjp : j ≤ p := Nat.le_of_not_lt hpj
    have h1 : j < a.length := Nat.lt_of_le_of_lt hjp hp
    exact Nat.lt_irrefl _ (Nat.lt_of_lt_of_le (hhi h1) (sorted_mono hs h1 hp hjp))

-- `hj0` follows from `hj`; it is a hypothesis so that every `a[j]` finds its bound in the context (the
-- search for it is what costs otherwise)
theorem two_le_count (a : List Nat) (j : Nat) (hj0 : j < a.length) (hj : j + 1 < a.length)
    (h : a[j+1] = a[j]) : 2 ≤ a.count a[j] := by
  have := (List.drop_sublist j a).count_le a[j]
  rw [List.drop_eq_getElem_cons hj0, List.drop_eq_getElem_cons hj, h,
    List.count_cons_self, List.count_cons_self] at this
  exact Nat.le_trans (Nat.le_add_left 2 _) this

/-- configuration reached after the first `j` lines of an assignment -/
def cfgI (a : List Nat) (j : Nat) : Nat := if h : 0 < j ∧ j - 1 < a.length then nextI es a[j-1] else 0
def cfgO (a : List Nat) (j : Nat) : Bool := if h : 0 < j ∧ j - 1 < a.length then nextO es a[j-1] else false

theorem cfgI_succ {a : List Nat} {j : Nat} (h : j < a.length) : cfgI es a (j+1) = nextI es a[j] :=
  dif_pos ⟨Nat.succ_pos j, h⟩
theorem cfgO_succ {a : List Nat} {j : Nat} (h : j < a.length) : cfgO es a (j+1) = nextO es a[j] :=
  dif_pos ⟨Nat.succ_pos j, h⟩

/-- after a line went to `v`, the expectations free to be skipped start behind `v`, open or not -/
theorem start_next (v : Nat) : (if nextO es v = true then nextI es v + 1 else nextI es v) = v + 1 := by
  unfold nextI nextO; cases (es v).multiline <;> rfl

theorem assignment_nacc {a : List Nat} (ha : Assignment n m es mt a) :
    ∀ d j, j + d = m → NAcc n m es mt (cfgI es a j) (cfgO es a j) j := by
  obtain ⟨htot, hsort, hrange, hmatch, hleast, hmost⟩ := ha
  -- an expectation that the assignment leaves out is optional
  have skip : ∀ t, t < n → t ∉ a → (es t).optional = true := fun t ht hn =>
    Decidable.by_contra fun ho => hn (hleast t ht (by simpa using ho))
  -- so are those between the expectation of line `j` and the expectation of the next line (if any)
  have after : ∀ j (hj : j < a.length) t, a[j] < t → t < n → (∀ h : j + 1 < a.length, t < a[j+1]) →
      (es t).optional = true := fun j hj t h1 h2 h3 =>
    skip t h2 (sorted_gap hsort (j := j+1) hj (fun _ _ => h1) h3)
  intro d
  induction d with
  | zero =>
    intro j hj
    cases (hj.trans htot.symm : j = a.length)
    rw [← htot]
    refine NAcc.done fun t ht1 ht2 => ?_
    cases hl : a.length with
    | zero => exact skip t ht2 (by rw [List.eq_nil_of_length_eq_zero hl]; exact List.not_mem_nil)
    | succ j =>
      have hj : j < a.length := by omega
      simp only [hl, cfgI_succ es hj, cfgO_succ es hj, start_next] at ht1
      exact after j hj t ht1 ht2 (fun h => absurd (hl ▸ h) (Nat.lt_irrefl _))
  | succ d ih =>
    intro j hj
    have hja : j < a.length := by omega
    have hnext := ih (j+1) ((Nat.add_right_comm j 1 d).trans hj)
    rw [cfgI_succ es hja, cfgO_succ es hja] at hnext
    refine NAcc.step (htot ▸ hja) ?_ (hmatch j hja) hnext
    -- `a[j]` is a candidate in the configuration after `j` lines
    have hkn : a[j] < n := hrange _ (List.getElem_mem hja)
    cases j with
    | zero =>
      exact ⟨Nat.zero_le _, hkn, fun t _ ht =>
        skip t (Nat.lt_trans ht hkn) (sorted_gap hsort (j := 0) (Nat.zero_le _) (fun _ h => nomatch h) (fun _ => ht))⟩
    | succ j =>
      have hj0 : j < a.length := Nat.lt_of_succ_lt hja
      rw [cfgI_succ es hj0, cfgO_succ es hj0]
      have hle : a[j] ≤ a[j+1] := sorted_mono hsort hj0 hja (Nat.le_succ j)
      have reach : a[j] < a[j+1] → Reach n es (a[j] + 1) a[j+1] := fun hlt =>
        ⟨hlt, hkn, fun t h1 h2 => after j hj0 t h1 (Nat.lt_trans h2 hkn) (fun _ => h2)⟩
      unfold nextI nextO Cand
      cases hmul : (es a[j]).multiline with
      | true =>
        by_cases heq : a[j+1] = a[j]
        · exact .inl heq
        · exact .inr (reach (Nat.lt_of_le_of_ne hle (Ne.symm heq)))
      | false =>
        -- a second line for the same expectation needs `+` or `*`
        refine reach (Nat.lt_of_le_of_ne hle fun heq => ?_)
        exact absurd (Nat.le_trans (two_le_count a j hj0 hja heq.symm)
          (hmost a[j] (hrange _ (List.getElem_mem hj0)) hmul)) (by decide)

theorem C03_iff (hdet : Det n m es mt 0 false 0) :
    hasDiff (diff n m es mt) = false ↔ ∃ a, Assignment n m es mt a :=
  ⟨C01_no_false_pass n m es mt,
    fun ⟨_, ha⟩ => C03_complete n m es mt (assignment_nacc n m es mt ha m 0 (Nat.zero_add m)) hdet⟩

end Scrut.Diff
