
namespace Scrut.Diff
/-! Transliteration of DiffTool::diff (src/diff.rs:90-247). -/

structure Exp where
  optional : Bool
  multiline : Bool
deriving Repr, DecidableEq

inductive DL where
  | matched (idx : Nat) (lines : List Nat)
  | unmatched (idx : Nat)
  | unexpected (lines : List Nat)
deriving Repr, DecidableEq

/-- first index `k` in `[start, start+cnt)` with `p k` -/
def findFrom (p : Nat → Bool) : (start cnt : Nat) → Option Nat
  | _, 0 => none
  | start, cnt+1 => if p start then some start else findFrom p (start+1) cnt

theorem findFrom_eq_find? (p : Nat → Bool) :
    ∀ start cnt, findFrom p start cnt = (List.range' start cnt).find? p
  | _, 0 => rfl
  | start, cnt+1 => by
    rw [findFrom, List.range'_succ, List.find?_cons, findFrom_eq_find? p (start+1) cnt]
    cases p start <;> rfl

theorem findFrom_some {p : Nat → Bool} : ∀ {start cnt k}, findFrom p start cnt = some k →
    start ≤ k ∧ k < start + cnt ∧ p k = true ∧ ∀ j, start ≤ j → j < k → p j = false := by
  intro start cnt k h
  rw [findFrom_eq_find?, List.find?_range'_eq_some, List.mem_range'_1] at h
  exact ⟨h.2.1.1, h.2.1.2, h.1, fun j h1 h2 => by simpa using h.2.2 j h1 h2⟩

theorem findFrom_none {p : Nat → Bool} : ∀ {start cnt}, findFrom p start cnt = none →
    ∀ j, start ≤ j → j < start + cnt → p j = false := by
  intro start cnt h j h1 h2
  rw [findFrom_eq_find?, List.find?_range'_eq_none] at h
  simpa using h j h1 h2

def rangeFrom (a b : Nat) : List Nat := (List.range (b - a)).map (· + a)

section
variable (n m : Nat) (es : Nat → Exp) (mt : Nat → Nat → Bool)

def unmatchedOf (a b : Nat) : List DL :=
  ((rangeFrom a b).filter (fun i => !(es i).optional)).map DL.unmatched

/-- The `while` loop of `DiffTool::diff` (diff.rs:100-215): `ei` = `expectation_index`, `li` = `line_index`,
`ms` = `match_start` (the first line of the run of lines that the multiline expectation `ei` holds so
far), `acc` = `diffs`. The branches, in the order of the source:
* `ei` matches the line and is multiline: if the next expectation matches the line too and `ei` may
  stop here (it is optional or already holds a line), `ei` yields: its run, if any, is recorded and
  `ei+1` gets the line (:112-133); otherwise the line joins the run of `ei` (:135-141);
* `ei` matches and is not multiline: recorded with this one line (:144-153);
* `ei` does not match but holds a run: the run is recorded, the line goes to `ei+1` (:158-170);
* otherwise `peek_match`: the first later expectation that matches the line, the expectations in
  between being reported unmatched unless optional (:176-190); failing that the first later line
  that `ei` matches, the lines in between being reported unexpected (:193-201); failing both, `ei`
  is given up (:204-213). -/
def loop (ei li : Nat) (ms : Option Nat) (acc : List DL) : Nat × Nat × Option Nat × List DL :=
  if h : ei < n ∧ li < m then
    if mt ei li then
      if (es ei).multiline then
        if ei + 1 < n ∧ ((es ei).optional || ms.isSome) ∧ mt (ei+1) li then
          loop (ei+1) li none
            (acc ++ (match ms with | some s => [DL.matched ei (rangeFrom s li)] | none => []))
        else
          loop ei (li+1) (some (ms.getD li)) acc
      else
        loop (ei+1) (li+1) ms (acc ++ [DL.matched ei [li]])
    else
      match ms with
      | some s => loop (ei+1) li none (acc ++ [DL.matched ei (rangeFrom s li)])
      | none =>
        match hk : findFrom (fun k => mt k li) (ei+1) (n - (ei+1)) with
        | some k =>
          have := (findFrom_some hk).1
          loop k li none (acc ++ unmatchedOf es ei k)
        | none =>
          match hl : findFrom (fun l => mt ei l) (li+1) (m - (li+1)) with
          | some l =>
            have := (findFrom_some hl).1
            loop ei l none (acc ++ [DL.unexpected (rangeFrom li l)])
          | none =>
            loop (ei+1) li none (acc ++ (if (es ei).optional then [] else [DL.unmatched ei]))
  else (ei, li, ms, acc)
termination_by (n - ei) + (m - li)
decreasing_by all_goals omega

def diff : List DL :=
  let (ei, li, ms, acc) := loop n m es mt 0 0 none []
  let (ei, acc) := match ms with
    | some s => (ei+1, acc ++ [DL.matched ei (rangeFrom s li)])
    | none => (ei, acc)
  let acc := acc ++ unmatchedOf es ei n
  if li < m then acc ++ [DL.unexpected (rangeFrom li m)] else acc

def hasDiff (d : List DL) : Bool :=
  d.any (fun | .matched .. => false | _ => true)
end

-- doc example: foo1, bar, baz vs bla foo1 foo2 foo3 bar
def exEs : Nat → Exp := fun _ => ⟨false, false⟩
def exMt : Nat → Nat → Bool := fun e l => (e, l) ∈ [(0,1),(1,4)]

end Scrut.Diff
