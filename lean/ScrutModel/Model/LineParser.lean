/-!
# Model of `src/parsers/line_parser.rs` (`LineParser`)

The shared engine of the Markdown and the Cram parser: it is fed the lines of test bodies one
by one (`add_testcase_body`), and told where a test ends (`end_testcase`).

* text is `List Char`; a command is the list of its lines (`shellExpression` joins with `\n`);
* the expectation grammar (`ExpectationMaker::parse`) is a **parameter** `expOk : List Char → Bool`
  (does the line parse as an expectation?) – the model keeps the text of the line
  (the real `Expectation::original_string()`);
* the per-test configuration is an opaque type `κ` (`none` = `TestCaseConfig::default()`);
* every `bail!` / `?` of the Rust is an `Err` value.  There is no index / slice / subtraction in
  `line_parser.rs`, hence no crash value here.
-/
namespace Scrut.LineParser

/-- `bail!`s of `line_parser.rs`, with the 1-based line number of the message -/
inductive Err where
  /-- "command extender '>' requires previous command start '$' which is not given" -/
  | extenderWithoutCommand (line : Nat)
  /-- "exit code provided multiple times" -/
  | exitCodeTwice (line : Nat)
  /-- "exit code [..] is out of range": the line has the form `^\[([0-9]+)\]$` but the number does
  not fit into an `i32` -/
  | exitCodeOutOfRange (line : Nat)
  /-- `expectation_maker.parse(line)` failed ("parsing line N") -/
  | expectationParse (line : Nat)
  /-- "testcase output expectation(s) given, but no shell expression specified" -/
  | noShellExpression (line : Nat)
  /-- "exit code given, but no shell expression specified" -/
  | exitCodeWithoutCommand (line : Nat)
  /-- `add_testcase_body`: "testcase output expectation or exit code given, but no shell expression
  specified" – a body line that is neither command start nor continuation while no command is
  open -/
  | bodyWithoutCommand (line : Nat)
  deriving Repr, DecidableEq, Inhabited

/-- `enum CodeType` -/
inductive CodeType where
  | commandStart | commandContinue | expectation | exitCode
  deriving Repr, DecidableEq, Inhabited

/-- `TestCase` (the fields that the parsers fill) -/
structure TestCase (κ : Type) where
  title : List Char
  /-- the lines of the command; `shell_expression` is their `join("\n")` -/
  command : List (List Char)
  exitCode : Option Nat
  /-- text of the expectation lines, in order -/
  expectations : List (List Char)
  /-- 1-based -/
  lineNumber : Nat
  /-- `none` = `unwrap_or_default()` -/
  config : Option κ
  deriving Repr, DecidableEq

/-- `Vec<String>::join("\n")` -/
def joinNl : List (List Char) → List Char
  | [] => []
  | [l] => l
  | l :: rest => l ++ '\n' :: joinNl rest

def TestCase.shellExpression {κ} (t : TestCase κ) : List Char := joinNl t.command

/-- `struct LineParser` (without the `expectation_maker`, which is the parameter `expOk`) -/
structure State (κ : Type) where
  testcases : List (TestCase κ) := []
  title : Option (List Char) := none
  command : List (List Char) := []
  exitCode : Option Nat := none
  expectations : List (List Char) := []
  inCommand : Bool := false
  allowMultipleCommands : Bool
  outputStartIndex : Option Nat := none
  config : Option κ := none
  deriving Repr, DecidableEq

/-- `LineParser::new` -/
def State.new {κ} (allowMultipleCommands : Bool) : State κ := { allowMultipleCommands }

def isAsciiDigit (c : Char) : Bool := '0'.toNat ≤ c.toNat && c.toNat ≤ '9'.toNat

/-- decimal value of a list of ASCII digits -/
def digitsVal (ds : List Char) : Nat := ds.foldl (fun acc c => acc * 10 + (c.toNat - '0'.toNat)) 0

/-- `i32::MAX` -/
def i32Max : Nat := 2147483647

/-- `EXIT_CODE_EXPRESSION.is_match(line)`: `^\[([0-9]+)\]$` (the Rust `regex` crate: `$` is the end
of the text, no multi-line mode, `[0-9]` is ASCII only) -/
def isExitCodeForm (line : List Char) : Bool :=
  match line with
  | '[' :: rest =>
    match rest.reverse with
    | ']' :: revDigits =>
      let ds := revDigits.reverse
      !ds.isEmpty && ds.all isAsciiDigit
    | _ => false
  | _ => false

/-- `extract_exit_code`: `^\[([0-9]+)\]$`, then `parse::<i32>()` (`None` on overflow;
`add_testcase_body` turns that `None` into the error `exitCodeOutOfRange`). -/
def extractExitCode (line : List Char) : Option Nat :=
  match line with
  | '[' :: rest =>
    match rest.reverse with
    | ']' :: revDigits =>
      let ds := revDigits.reverse
      if !ds.isEmpty && ds.all isAsciiDigit then
        let v := digitsVal ds
        if v ≤ i32Max then some v else none
      else none
    | _ => none
  | _ => none

/-- the test of `add_testcase_body` in front of the exit code:
`EXIT_CODE_EXPRESSION.is_match(line) && extract_exit_code(line).is_none()` -/
def exitCodeOverflows (line : List Char) : Bool :=
  isExitCodeForm line && (extractExitCode line).isNone

theorem extractExitCode_eq (line : List Char) :
    extractExitCode line =
      if isExitCodeForm line then
        (if digitsVal (line.drop 1).dropLast ≤ i32Max then some (digitsVal (line.drop 1).dropLast) else none)
      else none := by
  unfold extractExitCode isExitCodeForm
  split
  · rename_i rest
    split
    · rename_i revDigits hrev
      have hr : rest = revDigits.reverse ++ [']'] := by
        have := congrArg List.reverse hrev
        simpa using this
      simp only [List.drop_succ_cons, List.drop_zero, hr, List.dropLast_concat]
    · simp
  · simp

theorem extractExitCode_of_not_form {line : List Char} (h : isExitCodeForm line = false) :
    extractExitCode line = none := by
  rw [extractExitCode_eq, h]; rfl

theorem isExitCodeForm_of_extract {line : List Char} {v : Nat} (h : extractExitCode line = some v) :
    isExitCodeForm line = true := by
  cases hf : isExitCodeForm line with
  | true => rfl
  | false => rw [extractExitCode_of_not_form hf] at h; cases h

theorem exitCodeOverflows_of_not_form {line : List Char} (h : isExitCodeForm line = false) :
    exitCodeOverflows line = false := by
  simp [exitCodeOverflows, h]

theorem exitCodeOverflows_of_extract {line : List Char} {v : Nat} (h : extractExitCode line = some v) :
    exitCodeOverflows line = false := by
  simp [exitCodeOverflows, h]

/-- `str::strip_prefix` -/
def stripPrefix (p : List Char) (l : List Char) : Option (List Char) :=
  match p, l with
  | [], l => some l
  | _ :: _, [] => none
  | a :: p', b :: l' => if a = b then stripPrefix p' l' else none

/-- `is_comment` -/
def isComment (line : List Char) : Bool :=
  match line with
  | '#' :: _ => true
  | _ => false

/-- `LineParser::flush` -/
def State.flush {κ} (s : State κ) : State κ :=
  { s with title := none, command := [], expectations := [], exitCode := none,
           outputStartIndex := none, config := none }

/-- `LineParser::end_testcase(line_index)` -/
def State.endTestcase {κ} (s : State κ) (lineIndex : Nat) : Except Err (State κ) :=
  if s.command.isEmpty then
    if !s.expectations.isEmpty then .error (.noShellExpression (lineIndex + 1))
    else if s.exitCode.isSome then .error (.exitCodeWithoutCommand (lineIndex + 1))
    else .ok s
  else
    let t : TestCase κ :=
      { title := s.title.getD []
        command := s.command
        exitCode := s.exitCode
        expectations := s.expectations
        lineNumber := s.outputStartIndex.getD lineIndex + 1
        config := s.config }
    .ok ({ s with testcases := s.testcases ++ [t] }).flush

/-- the part of `add_testcase_body` after the command-start test -/
def State.addBodyRest {κ} (expOk : List Char → Bool) (s : State κ) (line : List Char) (index : Nat) :
    Except Err (State κ × CodeType) :=
  match (if s.inCommand then stripPrefix ['>', ' '] line else none) with
  | some l =>
    if s.command.isEmpty then .error (.extenderWithoutCommand (index + 1))
    else .ok ({ s with command := s.command ++ [l] }, .commandContinue)
  | none =>
    let s := { s with inCommand := false }
    -- exit codes and output expectations belong to the shell expression above them
    if s.command.isEmpty then .error (.bodyWithoutCommand (index + 1)) else
    -- an exit code that does not fit is no output expectation
    if exitCodeOverflows line then
      .error (.exitCodeOutOfRange (index + 1)) else
    match extractExitCode line with
    | some code =>
      if s.exitCode.isSome then .error (.exitCodeTwice (index + 1))
      else .ok ({ s with exitCode := some code }, .exitCode)
    | none =>
      if expOk line then .ok ({ s with expectations := s.expectations ++ [line] }, .expectation)
      else .error (.expectationParse (index + 1))

/-- `LineParser::add_testcase_body(line, index)` -/
def State.addBody {κ} (expOk : List Char → Bool) (s : State κ) (line : List Char) (index : Nat) :
    Except Err (State κ × CodeType) :=
  match (if s.allowMultipleCommands || s.command.isEmpty then stripPrefix ['$', ' '] line
         else none) with
  | some l =>
    let s := { s with inCommand := true }
    match (if !s.command.isEmpty then s.endTestcase index else .ok s) with
    | .error e => .error e
    | .ok s =>
      let s := if s.outputStartIndex.isNone then { s with outputStartIndex := some index } else s
      .ok ({ s with command := s.command ++ [l] }, .commandStart)
  | none => s.addBodyRest expOk line index

/-- `set_testcase_title` -/
def State.setTitle {κ} (s : State κ) (t : List Char) : State κ := { s with title := some t }

/-- `set_testcase_config` -/
def State.setConfig {κ} (s : State κ) (c : κ) : State κ := { s with config := some c }

/-- `has_testcase_body` -/
def State.hasBody {κ} (s : State κ) : Bool := !s.command.isEmpty || !s.expectations.isEmpty

end Scrut.LineParser
