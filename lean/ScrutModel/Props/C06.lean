import ScrutModel.Lemmas.MarkdownTail
import ScrutModel.Lemmas.MarkdownAlign
import ScrutModel.Lemmas.Basic
/-!
# C06 — Markdown: every scrut block becomes exactly one test; nothing is dropped

Model: `Model/Markdown.lean` (tokenizer `MarkdownIterator`, `extract_code_block_start` with its
byte-offset slicing, `MarkdownParser::parse`) on top of `Model/LineParser.lean`.  Parameters: the
Unicode letter class, the expectation grammar and serde_yaml (`Env`).

Proved here, for **all** documents (no bound on the number or length of lines, any characters):

* `C06_no_crash` – parsing never reaches a panic: every slice of `extract_code_block_start` is at
  a character boundary inside the line, every `line_index - 1` has `line_index ≥ 1`;
* `C06_tokens_cover` – the tokenizer always runs to the end of the document and its tokens
  partition the document (`Covers`): every line is in exactly one token, in order, with its
  correct index; no line is dropped, also behind malformed constructs;
* `C06_unterminated_*` – an unterminated front-matter / foreign block / scrut block yields one
  token that holds all remaining lines.

* `C06_wellformed` – for every document of the generator's grammar (`ItemsWF`), i.e. a sequence of
  - prose lines (any line that is not a fence start: blank, text, headings, lines that merely
    start with one or two backticks or with an inline code span of three or more, `---` once
    content has started, …),
  - front-matter (`---`, lines, `---`) while no content has started (blank lines may precede it;
    its YAML is opaque: `docCfgOk` accepts the text – the lines, each with its line ending),
  - foreign code blocks (language not a test language and not empty, fence of any length ≥ 3,
    body lines that do not start with the opening fence, closing line = any line that starts with
    the opening fence, e.g. a longer fence),
  - scrut blocks without a command (comment lines only, or empty),
  - scrut blocks with a command (optional `{…}`, comment lines, `$` line, `>` lines, then
    expectation lines – among them at most one exit code line, anywhere; no other line of the form
    `[digits]`: `Block.WF` demands `isExitCodeForm e = false` of every expectation line, because
    `[2147483648]` is the error `exitCodeOutOfRange` (scrut's fix "exit code out of range"), not an
    expectation – closing line as above),
  the parser succeeds and yields exactly the front-matter texts (`docTexts`) and `expectedTests`:
  one test per block with a command, in order, with shell expression, expectation texts, exit
  code, inline configuration text, 1-based line number of the `$` line and the title as the code
  defines it (see `expectedTests`: foreign blocks and front-matter are invisible to the title
  logic, a block without command ends the run of title lines but keeps the title);
* `C06_wellformed_lines`, `C06_wellformed_cores` – consequences that do not mention the title
  bookkeeping: every line number is that of a `$` line; count, order and content of the tests
  are those of the blocks as written;
* `C06_prose_inert`, `C06_other_blocks_inert`, `C06_inert_items` – inserting a prose line, a
  foreign block or a scrut block without command anywhere behind the front-matter keeps the
  document parseable and changes neither the document configuration nor count, order and content
  of the tests (only line numbers and titles may move).

* `C06_fence_iff_spec`, `C06_fence_is_ticks` – the lines the code takes for the start of a fenced
  block are exactly the fence lines of the property (`isFenceLine`: three or more backticks, then
  an info string **without backtick** in front of the inline configuration `{…}`), with the run
  of backticks as the fence;
* `C06_inline_code_span_not_fence`, `C06_inline_code_span_prose`, `C06_inline_code_span_inert`,
  `C06_inline_code_span_like_prose`, `C06_prose_interchangeable` – a line that starts with an inline
  code span ("```` ``` ```` is how three backticks are written") is a prose line: never a fence
  opener, inert when inserted, and interchangeable with any other non-title, non-blank prose line
  without any change of the result (titles and line numbers included);

* `C06_wellformed_tail` – the same for documents whose **last construct is unterminated**: a
  sequence of well-formed items followed by a `Tail` – front-matter without the closing `---`
  (while no content has started), a foreign block, a scrut block without command or a scrut block
  with a command without closing line.  The parser succeeds and yields the front-matter texts of
  the items plus that of the tail, and the tests of the items plus – for an unterminated block
  with a command – the test that is written in the tail (`tailTests`: all lines to the end of the
  document are its body; line number of its `$` line; the title collected before it).  No
  construct is dropped or reported as an error because its closing line is missing;
* `C06_wellformed_tail_as_closed`, `C06_last_closing_line_optional` – put differently: the tail is
  read exactly as if it had been closed; removing the closing line of the last construct of a
  well-formed document changes nothing in the result.

This is the whole grammar of the harness' generator (`harness/src/markdown.rs`, `Item`, including
its unterminated last items: streams `ast-open-tail` and `ast-prefixes`).  What the code does with
an unterminated construct is the same as with a closed one, in particular an unterminated bare
fence is still `MissingLanguageSpecifier`, and a `---` that is never closed is front-matter (its
text must be a document configuration) only while no content has started – afterwards it is a
prose line and the lines behind it are ordinary items.

The model follows scrut with its `fix:` commits for the harness classes `C06:state-leak`,
`C06:bare-long-fence`, `C06:info-string-whitespace`, `C06:config-dropped`,
`C06:expectation-before-command`, `C06:inline-code-span-hides-tests`; the witnesses of these classes
are closed examples below and the harness stream `reading-witnesses`.
-/
namespace Scrut.Props.C06
open Scrut Scrut.Markdown Scrut.LineParser

/-- Parsing a Markdown document never panics, whatever the document, the letter class, the
expectation grammar and the YAML verdicts are. -/
theorem C06_no_crash (env : Env) (text : List Char) : parseMarkdown env text ≠ .error .crash :=
  parseLines_ne_crash env (splitLines text)

/-- The tokenizer never fails and never stops early: its tokens partition the lines of the
document. -/
theorem C06_tokens_cover (languages : List Line) (lines : List Line) :
    ∃ toks, tokenize languages lines = .ok toks ∧ Covers languages 0 lines toks :=
  tokenize_covers languages lines

/-- Front-matter that is never closed is read to the end of the document. -/
theorem C06_unterminated_front_matter (languages : List Line) (li : Nat) (body : List Line)
    (hb : ∀ x ∈ body, x ≠ frontMatterFence) :
    run languages .top false li (frontMatterFence :: body) = .ok [.docConfig (number (li + 1) body)] := by
  have := runP_front_body languages body hb li []
  rw [List.append_nil] at this
  rw [run_eq, this]
  rfl

/-- A foreign code block that is never closed is read to the end of the document (wherever in the
document it starts: `li`, `cs` are the tokenizer's state in front of the opening line). -/
theorem C06_unterminated_verbatim (languages : List Line) (cs : Bool) (li : Nat)
    (opener bt language config : Line) (body : List Line)
    (hx : extractCodeBlockStart opener = .ok (some (bt, language, config)))
    (hl : languages.contains language = false) (hb : ∀ x ∈ body, startsWith x bt = false) :
    run languages .top cs li (opener :: body) = .ok [.verbatim li language (opener :: body)] := by
  have := verb_skip languages true bt li language body [] hb [opener] (li + 1)
  rw [List.append_nil] at this
  rw [run_eq, runP_opener languages hx, hl, Bool.not_false, if_pos rfl, this]
  rfl

/-- A scrut block that is never closed is read to the end of the document: all remaining lines
are its comment and code lines, with their indices. -/
theorem C06_unterminated_test (languages : List Line) (cs : Bool) (li : Nat)
    (opener bt language config : Line) (body : List Line)
    (hx : extractCodeBlockStart opener = .ok (some (bt, language, config)))
    (hl : languages.contains language = true) (hb : ∀ x ∈ body, startsWith x bt = false) :
    ∃ comments code,
      run languages .top cs li (opener :: body) = .ok [.test language (cfgLines li config) comments code]
      ∧ comments ++ code = number (li + 1) body := by
  obtain ⟨cm, cd, heq, _, _, _, hrun⟩ :=
    test_skip languages true bt language (cfgLines li config) body hb [] [] (li + 1)
  have := hrun []
  rw [List.append_nil] at this
  rw [run_eq, runP_opener languages hx, hl, Bool.not_true, if_neg Bool.false_ne_true, this]
  exact ⟨cm, cd, rfl, by simpa using heq⟩

/-- **Well-formed documents**: every scrut block with a command becomes exactly one test, in
document order, with exactly the shell expression, expectation lines, exit code, inline
configuration, line number and title that are written; prose, front-matter, foreign blocks and
blocks without a command create, hide and truncate nothing. -/
theorem C06_wellformed (env : Env) (items : List Item) (wf : ItemsWF env false items) :
    parseLines env (render items)
      = .ok { docConfigs := docTexts items, tests := expectedTests env items 0 none [] } :=
  parseLines_render env items wf

/-- the same for the text of the document -/
theorem C06_wellformed_text (env : Env) (text : List Char) (items : List Item)
    (h : splitLines text = render items) (wf : ItemsWF env false items) :
    parseMarkdown env text
      = .ok { docConfigs := docTexts items, tests := expectedTests env items 0 none [] } := by
  unfold parseMarkdown
  rw [h]
  exact parseLines_render env items wf

/-- **Well-formed documents that end in an unterminated construct** (`tail`: front-matter, foreign
block, scrut block without or with a command, each without its closing line; `Tail.none` gives
`C06_wellformed` back).  The tokenizer reads the open construct to the end of the document, the
parser treats it like a closed one:

* the items in front of it yield their front-matter texts and tests as in `C06_wellformed`;
* unterminated front-matter (only while no content has started) yields its text;
* an unterminated foreign block or scrut block without command yields nothing (and no error);
* an unterminated scrut block with a command yields its test: shell expression, expectation
  lines, exit code, inline configuration as written, line number of its `$` line
  (`(render items).length` is the index of the tail's first line), and the title that the items
  have collected and no earlier test has used (`titleAfter`).

Nothing is dropped, nothing is invented, no error is raised because the closing line is missing. -/
theorem C06_wellformed_tail (env : Env) (items : List Item) (tail : Tail) (wf : ItemsWF env false items)
    (wft : tail.WF env (csAfterAll false items)) :
    parseLines env (render items ++ tail.lines)
      = .ok { docConfigs := docTexts items ++ tail.docTexts
              tests := expectedTests env items 0 none []
                ++ tailTests tail (render items).length (titleAfter env items none []).1 } :=
  parseLines_render_tail env items tail wf wft

/-- the same for the text of the document -/
theorem C06_wellformed_tail_text (env : Env) (text : List Char) (items : List Item) (tail : Tail)
    (h : splitLines text = render items ++ tail.lines) (wf : ItemsWF env false items)
    (wft : tail.WF env (csAfterAll false items)) :
    parseMarkdown env text
      = .ok { docConfigs := docTexts items ++ tail.docTexts
              tests := expectedTests env items 0 none []
                ++ tailTests tail (render items).length (titleAfter env items none []).1 } := by
  unfold parseMarkdown
  rw [h]
  exact parseLines_render_tail env items tail wf wft

/-- … in the vocabulary of `C06_wellformed` alone: the unterminated construct is read exactly as
if it were closed (`tail.closed` = the tail as an item). -/
theorem C06_wellformed_tail_as_closed (env : Env) (items : List Item) (tail : Tail)
    (wf : ItemsWF env false items) (wft : tail.WF env (csAfterAll false items)) :
    parseLines env (render items ++ tail.lines)
      = .ok { docConfigs := docTexts (items ++ tail.closed)
              tests := expectedTests env (items ++ tail.closed) 0 none [] } :=
  parseLines_render_tail_closed env items tail wf wft

/-- Removing the closing line of the last construct of a well-formed document (the closing `---`
of its front-matter, the closing fence of a foreign or scrut block) does not change the result. -/
theorem C06_last_closing_line_optional (env : Env) (items : List Item) (tail : Tail)
    (wf : ItemsWF env false (items ++ tail.closed)) :
    parseLines env (render items ++ tail.lines) = parseLines env (render (items ++ tail.closed)) := by
  have h := (itemsWF_append env items tail.closed false).mp wf
  rw [parseLines_render env _ wf,
    parseLines_render_tail_closed env items tail h.1 (tail_wf_of_closed env tail _ h.2)]

/-- count, order and content of the tests are those of the blocks as written -/
theorem C06_wellformed_cores (env : Env) (items : List Item) :
    (expectedTests env items 0 none []).map TestCase.core = writtenCores items :=
  expectedTests_core env items 0 none []

/-- every reported line number is the 1-based number of a line `$ <first command line>` of the
document -/
theorem C06_wellformed_lines (env : Env) (items : List Item) :
    ∀ x ∈ expectedTests env items 0 none [],
      0 < x.lineNumber ∧ (render items)[x.lineNumber - 1]? = some ('$' :: ' ' :: x.command.headD []) := by
  intro x hx
  obtain ⟨k, hk, h⟩ := expectedTests_lines env items 0 none [] x hx
  have e : x.lineNumber - 1 = k := by omega
  exact ⟨by omega, e ▸ h⟩

/-- Inserting an inert item `x` (prose line, foreign block, scrut block without command; well-formed
at its position) between the items of a well-formed document, behind the front-matter: the
document stays parseable, the document configuration and count, order and content (command,
expectations, exit code, configuration) of its tests are unchanged – only line numbers and titles
may move. -/
theorem C06_inert_items (env : Env) (pre post : List Item) (x : Item) (hx : x.inert = true)
    (hnf : noFront post = true) (wf : ItemsWF env false (pre ++ post))
    (hxwf : x.WF env (csAfterAll false pre)) :
    ∃ ts ts', parseLines env (render (pre ++ post)) = .ok { docConfigs := docTexts (pre ++ post), tests := ts } ∧
      parseLines env (render (pre ++ x :: post))
        = .ok { docConfigs := docTexts (pre ++ post), tests := ts' } ∧
      ts'.map TestCase.core = ts.map TestCase.core := by
  have wf' := itemsWF_insert env pre post x hx hnf false wf hxwf
  refine ⟨expectedTests env (pre ++ post) 0 none [], expectedTests env (pre ++ x :: post) 0 none [],
    parseLines_render env _ wf, ?_, ?_⟩
  · rw [← docTexts_insert pre post x hx]
    exact parseLines_render env _ wf'
  · rw [expectedTests_core, expectedTests_core, writtenCores_insert pre post x hx]

/-- … a prose line (not a fence start *by the code's definition*; `---` only once content has
started) -/
theorem C06_prose_inert (env : Env) (pre post : List Item) (p : Line)
    (hnf : noFront post = true) (wf : ItemsWF env false (pre ++ post))
    (hp : Item.WF env (csAfterAll false pre) (.prose p)) :
    ∃ ts ts', parseLines env (render (pre ++ post)) = .ok { docConfigs := docTexts (pre ++ post), tests := ts } ∧
      parseLines env (render (pre ++ .prose p :: post))
        = .ok { docConfigs := docTexts (pre ++ post), tests := ts' } ∧
      ts'.map TestCase.core = ts.map TestCase.core :=
  C06_inert_items env pre post (.prose p) rfl hnf wf hp

/-- … a foreign code block (whatever its body: `$` lines, shorter fences, `---`, …) -/
theorem C06_other_blocks_inert (env : Env) (pre post : List Item) (v : Fenced)
    (hnf : noFront post = true) (wf : ItemsWF env false (pre ++ post)) (hv : v.ForeignWF env) :
    ∃ ts ts', parseLines env (render (pre ++ post)) = .ok { docConfigs := docTexts (pre ++ post), tests := ts } ∧
      parseLines env (render (pre ++ .foreign v :: post))
        = .ok { docConfigs := docTexts (pre ++ post), tests := ts' } ∧
      ts'.map TestCase.core = ts.map TestCase.core :=
  C06_inert_items env pre post (.foreign v) rfl hnf wf hv

/-! ## fence lines and inline code spans -/

/-- **What the code takes for the start of a fenced block is what the property calls one**
(`isFenceLine`, `Model/MarkdownSpec.lean`: three or more backticks, then an info string that holds
no backtick in front of the inline configuration `{…}`): every other line – in particular a line that starts with an inline code span – is
not a fence start. -/
theorem C06_fence_iff_spec (l : Line) : extractCodeBlockStart l = .ok none ↔ isFenceLine l = false :=
  fence_iff_spec l

/-- … and the fence of a fence line is its run of backticks (which is what closes the block) -/
theorem C06_fence_is_ticks (l bt language config : Line)
    (h : extractCodeBlockStart l = .ok (some (bt, language, config))) :
    isFenceLine l = true ∧ bt = fenceTicks l := by
  refine ⟨?_, fencePure_fst l _ (fencePure_of h)⟩
  rw [← fencePure_isSome_iff, fencePure_of h]
  rfl

/-- **A line that starts with an inline code span is never a fence opener** (fix "the info string
of a fence holds no backtick in front of the inline configuration"): `n` backticks (any `n`, in
particular `n ≥ 3`), then text that does not start with a backtick and contains one in front of its
first `{` (`hbt`; a backtick behind a `{` belongs to the inline configuration of a fence line, see
`C06_backtick_in_config_is_fence`).  Before the fix such a line with `n ≥ 3` opened a
verbatim block that hid every test up to the next line starting with `n` backticks, or to the end
of the document. -/
theorem C06_inline_code_span_not_fence (n : Nat) (c : Char) (rest : Line) (hc : c ≠ '`') (hbt : '`' ∈ (c :: rest).takeWhile (· ≠ '{')) :
    extractCodeBlockStart (List.replicate n '`' ++ c :: rest) = .ok none := by
  have : ((c :: rest).takeWhile (· ≠ '{')).contains '`' = true := by simpa using hbt
  rw [fence_iff_spec, isFenceLine, fenceLang, show fenceInfo (List.replicate n '`' ++ c :: rest) = c :: rest from
    (fence_backticks n (c :: rest) (by simpa using hc)).2, this]
  simp

/-- … it is a well-formed prose item at every position of a document -/
theorem C06_inline_code_span_prose (env : Env) (cs : Bool) (n : Nat) (hn : 1 ≤ n) (c : Char) (rest : Line)
    (hc : c ≠ '`') (hbt : '`' ∈ (c :: rest).takeWhile (· ≠ '{')) :
    Item.WF env cs (.prose (List.replicate n '`' ++ c :: rest)) := by
  refine ⟨C06_inline_code_span_not_fence n c rest hc hbt, fun _ h => ?_⟩
  obtain ⟨m, rfl⟩ : ∃ m, n = m + 1 := ⟨n - 1, by omega⟩
  simp [List.replicate_succ, frontMatterFence] at h

/-- **… and at document level it is a prose line like any other**: in a well-formed document, a
prose line `p` that is not a title line and not blank (a list item, a quote, …) can be replaced by
the inline-code-span line – the result of parsing is *identical*: same document configuration, same
tests with the same shell expressions, expectations, exit codes, configurations, titles and line
numbers.  Nothing is created, hidden or truncated.  (`isLetter '`' = false`: a backtick is not in
`\p{L}`.) -/
theorem C06_inline_code_span_like_prose (env : Env) (hl : env.isLetter '`' = false)
    (pre post : List Item) (p : Line) (n : Nat) (hn : 1 ≤ n) (c : Char) (rest : Line)
    (hc : c ≠ '`') (hbt : '`' ∈ (c :: rest).takeWhile (· ≠ '{'))
    (hpt : extractTitle env.isLetter p = none) (hpb : (trim p).isEmpty = false)
    (wf : ItemsWF env false (pre ++ .prose p :: post)) :
    parseLines env (render (pre ++ .prose (List.replicate n '`' ++ c :: rest) :: post))
      = parseLines env (render (pre ++ .prose p :: post)) := by
  obtain ⟨h1, h2⟩ := inline_span_no_title env hl n hn (c :: rest)
  exact replace_prose env pre post p _ (by rw [hpt, h1]) (by rw [hpb, h2])
    (C06_inline_code_span_prose env _ n hn c rest hc hbt) wf

/-- the general form: two prose lines that agree in "is a title line" and "is blank" are
interchangeable -/
theorem C06_prose_interchangeable (env : Env) (pre post : List Item) (p q : Line)
    (ht : extractTitle env.isLetter p = extractTitle env.isLetter q)
    (hb : (trim p).isEmpty = (trim q).isEmpty)
    (hq : Item.WF env (csAfterAll false pre) (.prose q))
    (wf : ItemsWF env false (pre ++ .prose p :: post)) :
    parseLines env (render (pre ++ .prose q :: post)) = parseLines env (render (pre ++ .prose p :: post)) :=
  replace_prose env pre post p q ht hb hq wf

/-- … inserted into a document it changes neither the document configuration nor count, order and
content of the tests (`C06_prose_inert` with its hypothesis discharged) -/
theorem C06_inline_code_span_inert (env : Env) (pre post : List Item) (n : Nat) (hn : 1 ≤ n) (c : Char)
    (rest : Line) (hc : c ≠ '`') (hbt : '`' ∈ (c :: rest).takeWhile (· ≠ '{'))
    (hnf : noFront post = true) (wf : ItemsWF env false (pre ++ post)) :
    ∃ ts ts', parseLines env (render (pre ++ post)) = .ok { docConfigs := docTexts (pre ++ post), tests := ts } ∧
      parseLines env (render (pre ++ .prose (List.replicate n '`' ++ c :: rest) :: post))
        = .ok { docConfigs := docTexts (pre ++ post), tests := ts' } ∧
      ts'.map TestCase.core = ts.map TestCase.core :=
  C06_inert_items env pre post _ rfl hnf wf (C06_inline_code_span_prose env _ n hn c rest hc hbt)

/-! ## non-vacuity and witnesses -/

/-- an environment for closed examples: ASCII letters, every expectation and YAML text accepted -/
def envAll : Env :=
  { isLetter := fun c => (65 ≤ c.toNat && c.toNat ≤ 90) || (97 ≤ c.toNat && c.toNat ≤ 122)
    expOk := fun _ => true, docCfgOk := fun _ => true, testCfgOk := fun _ => true }

def scrutFence : Line := "```scrut".toList

/-- the hypotheses of `C06_unterminated_test` are satisfiable -/
example : extractCodeBlockStart ['`', '`', '`', 's', 'c', 'r', 'u', 't']
    = .ok (some (['`', '`', '`'], ['s', 'c', 'r', 'u', 't'], [])) := by decide +kernel

/-- a block for the non-vacuity of `Block.WF`: "```scrut {a}", "# c", "$ x", "> y", "o", "[7]",
"> z" (an expectation, not a continuation: it does not follow the command directly), closed by the
longer fence "`````" -/
def exampleBlock : Block :=
  { opener := ['`', '`', '`', 's', 'c', 'r', 'u', 't', ' ', '{', 'a', '}'], bt := ['`', '`', '`'],
    language := ['s', 'c', 'r', 'u', 't'], config := ['{', 'a', '}'], comments := [['#', ' ', 'c']],
    cmd := ['x'], more := [['y']], after := [['o'], ['[', '7', ']'], ['>', ' ', 'z']],
    closer := ['`', '`', '`', '`', '`'] }

/-- a foreign block "````py", "```scrut", "$ no", "```", "````" (a nested shorter scrut fence) -/
def exampleForeign : Fenced :=
  { opener := ['`', '`', '`', '`', 'p', 'y'], bt := ['`', '`', '`', '`'], language := ['p', 'y'], config := [],
    body := [['`', '`', '`', 's', 'c', 'r', 'u', 't'], ['$', ' ', 'n', 'o'], ['`', '`', '`']],
    closer := ['`', '`', '`', '`'] }

/-- a scrut block that holds a comment only -/
def exampleNoCommand : Fenced :=
  { opener := ['`', '`', '`', 's', 'c', 'r', 'u', 't'], bt := ['`', '`', '`'], language := ['s', 'c', 'r', 'u', 't'],
    config := [], body := [['#', ' ', 'n']], closer := ['`', '`', '`'] }

/-- blank line, front-matter, heading, foreign block, paragraph, block without command,
backtick-led prose, `---` as prose, block with a command -/
def exampleDoc : List Item :=
  [.prose [], .front [['a', ':', ' ', '1']], .prose ['#', ' ', 'T'], .foreign exampleForeign, .prose ['P'],
   .noCommand exampleNoCommand, .prose ['`', '`', 'x', '`', '`'], .prose ['-', '-', '-'], .block exampleBlock]

/-- the hypotheses of `C06_wellformed` are satisfiable, with every item kind -/
example : ItemsWF envAll false exampleDoc :=
  ⟨⟨by decide +kernel, by decide +kernel⟩, ⟨rfl, by decide +kernel, rfl⟩,
   ⟨by decide +kernel, by decide +kernel⟩,
   ⟨by decide +kernel, rfl, by decide +kernel, by decide +kernel, rfl⟩,
   ⟨by decide +kernel, by decide +kernel⟩,
   ⟨by decide +kernel, rfl, trivial, by decide +kernel, rfl, by decide +kernel⟩,
   ⟨by decide +kernel, by decide +kernel⟩, ⟨by decide +kernel, by decide +kernel⟩,
   ⟨by decide +kernel, rfl, rfl, by decide +kernel, rfl, by decide +kernel, by decide +kernel,
    by decide +kernel, rfl⟩, trivial⟩

/-- … and its tests: the title runs across the foreign block ("T" and "P" are one title), the
block without command keeps it, the `$` line is line 19 -/
example : expectedTests envAll exampleDoc 0 none []
    = [{ title := ['T', '\n', 'P'], command := [['x'], ['y']], exitCode := some 7,
         expectations := [['o'], ['>', ' ', 'z']], lineNumber := 19, config := some (some ['a']) }] := by decide +kernel

example : parseLines envAll (render exampleDoc)
    = .ok { docConfigs := [['a', ':', ' ', '1']], tests := expectedTests envAll exampleDoc 0 none [] } := by decide +kernel

/-! ### documents that end in an unterminated construct -/

/-- blank line, front-matter, heading, foreign block, paragraph: 11 lines, the title "T\nP" is
collected and not used -/
def exampleHead : List Item :=
  [.prose [], .front [['a', ':', ' ', '1']], .prose ['#', ' ', 'T'], .foreign exampleForeign, .prose ['P']]

example : ItemsWF envAll false exampleHead :=
  ⟨⟨by decide +kernel, by decide +kernel⟩, ⟨rfl, by decide +kernel, rfl⟩,
   ⟨by decide +kernel, by decide +kernel⟩,
   ⟨by decide +kernel, rfl, by decide +kernel, by decide +kernel, rfl⟩,
   ⟨by decide +kernel, by decide +kernel⟩, trivial⟩

/-- the hypotheses of `C06_wellformed_tail` are satisfiable with an unterminated scrut block with
a command (`exampleBlock` without its closing line: "```scrut {a}", "# c", "$ x", "> y", "o",
"[7]", "> z", end of the document) … -/
example : (Tail.openBlock exampleBlock).WF envAll (csAfterAll false exampleHead) :=
  ⟨by decide +kernel, rfl, rfl, by decide +kernel, by decide +kernel, by decide +kernel,
   by decide +kernel, rfl⟩

/-- … the document -/
example : render exampleHead ++ (Tail.openBlock exampleBlock).lines
    = [[], ['-', '-', '-'], ['a', ':', ' ', '1'], ['-', '-', '-'], ['#', ' ', 'T'],
       ['`', '`', '`', '`', 'p', 'y'], ['`', '`', '`', 's', 'c', 'r', 'u', 't'], ['$', ' ', 'n', 'o'], ['`', '`', '`'],
       ['`', '`', '`', '`'], ['P'],
       ['`', '`', '`', 's', 'c', 'r', 'u', 't', ' ', '{', 'a', '}'], ['#', ' ', 'c'], ['$', ' ', 'x'], ['>', ' ', 'y'],
       ['o'], ['[', '7', ']'], ['>', ' ', 'z']] := by decide +kernel

/-- … and its result: the test of the unterminated block, `$` on line 14, with the title -/
example : parseLines envAll (render exampleHead ++ (Tail.openBlock exampleBlock).lines)
    = .ok { docConfigs := [['a', ':', ' ', '1']], tests :=
        [{ title := ['T', '\n', 'P'], command := [['x'], ['y']], exitCode := some 7,
           expectations := [['o'], ['>', ' ', 'z']], lineNumber := 14, config := some (some ['a']) }] } := by decide +kernel

example : expectedTests envAll exampleHead 0 none []
      ++ tailTests (.openBlock exampleBlock) (render exampleHead).length (titleAfter envAll exampleHead none []).1
    = [{ title := ['T', '\n', 'P'], command := [['x'], ['y']], exitCode := some 7,
         expectations := [['o'], ['>', ' ', 'z']], lineNumber := 14, config := some (some ['a']) }] := by decide +kernel

/-- the other tails: non-vacuity of `Tail.WF` … -/
example : (Tail.openFront [['a', ':', ' ', '1']]).WF envAll (csAfterAll false [.prose []]) :=
  ⟨rfl, by decide +kernel, rfl⟩
example : (Tail.openForeign exampleForeign).WF envAll (csAfterAll false exampleHead) :=
  ⟨by decide +kernel, rfl, by decide +kernel, by decide +kernel⟩
example : (Tail.openNoCommand exampleNoCommand).WF envAll (csAfterAll false exampleHead) :=
  ⟨by decide +kernel, rfl, trivial, by decide +kernel, by decide +kernel⟩

/-- … and one evaluated document per kind.  Unterminated front-matter behind a blank line: -/
example : parseLines envAll [[], ['-', '-', '-'], ['a', ':', ' ', '1']]
    = .ok { docConfigs := [['a', ':', ' ', '1']], tests := [] } := by decide +kernel

/-- … the same lines once content has started are prose: no document configuration -/
example : parseLines envAll [['P'], ['-', '-', '-'], ['a', ':', ' ', '1']]
    = .ok { docConfigs := [], tests := [] } := by decide +kernel

/-- unterminated foreign block: its `$` line is no test -/
example : parseLines envAll [['#', ' ', 'T'], ['`', '`', '`', 'p', 'y'], ['$', ' ', 'n', 'o']]
    = .ok { docConfigs := [], tests := [] } := by decide +kernel

/-- … but an unterminated bare fence is an error like a closed one (excluded by `OpenForeignWF`) -/
example : parseLines envAll [['#', ' ', 'T'], ['`', '`', '`'], ['$', ' ', 'n', 'o']]
    = .error (.missingLanguage 1) := by decide +kernel

/-- unterminated scrut block without a command -/
example : parseLines envAll [['#', ' ', 'T'], ['`', '`', '`', 's', 'c', 'r', 'u', 't'], ['#', ' ', 'c']]
    = .ok { docConfigs := [], tests := [] } := by decide +kernel

/-- unterminated scrut block with a command: everything to the end of the document is its body -/
example : parseLines envAll
      [['#', ' ', 'T'], ['`', '`', '`', 's', 'c', 'r', 'u', 't'], ['#', ' ', 'c'], ['$', ' ', 'x'], ['o'], ['[', '7', ']']]
    = .ok { docConfigs := [], tests :=
        [{ title := ['T'], command := [['x']], exitCode := some 7, expectations := [['o']],
           lineNumber := 4, config := some none }] } := by decide +kernel

/-- a normal document: title, comment, command, expectation, exit code, 1-based line of the `$` -/
theorem C06_example_document :
    parseLines envAll
      [['#', ' ', 'T'], [], ['`', '`', '`', 's', 'c', 'r', 'u', 't'], ['#', ' ', 'c'], ['$', ' ', 'x'],
       ['o'], ['[', '7', ']'], ['`', '`', '`']]
    = .ok { docConfigs := [], tests :=
        [{ title := ['T'], command := [['x']], exitCode := some 7, expectations := [['o']],
           lineNumber := 5, config := some none }] } := by decide +kernel

/-- scrut's fixes 0c1f918 / 67abd12 (harness class `C06:state-leak`): a block that holds
only `[1]` is rejected at that line; its exit code is not handed to the test of the next block. -/
theorem C06_exit_code_without_command_rejected :
    parseLines envAll
      [['`', '`', '`', 's', 'c', 'r', 'u', 't'], ['[', '1', ']'], ['`', '`', '`'],
       ['`', '`', '`', 's', 'c', 'r', 'u', 't'], ['$', ' ', 'x'], ['`', '`', '`']]
    = .error (.lineParser (.bodyWithoutCommand 2)) := by decide +kernel

/-- scrut's fix d82a4b7 (harness class `C06:bare-long-fence`): a line of four backticks opens a code
block without language (which `parse` then reports like the bare "```"). -/
theorem C06_bare_long_fence :
    extractCodeBlockStart ['`', '`', '`', '`'] = .ok (some (['`', '`', '`', '`'], [], [])) := by decide +kernel

/-- scrut's fix d36f745 (harness classes `C06:info-string-whitespace`, `C06:config-dropped`): white space
around the language and after the configuration is ignored. -/
theorem C06_info_string_whitespace :
    extractCodeBlockStart ['`', '`', '`', ' ', 's', 'c', 'r', 'u', 't', ' ', '{', 'a', '}', ' ']
      = .ok (some (['`', '`', '`'], ['s', 'c', 'r', 'u', 't'], ['{', 'a', '}'])) := by decide +kernel

/-- scrut's fix "the info string of a fence holds no backtick" (harness class
`C06:inline-code-span-hides-tests`): the prose line "```` ``` ```` x" (three backticks written as
an inline code span) is not a fence opener … -/
theorem C06_inline_code_span_example :
    extractCodeBlockStart "```` ``` ```` x".toList = .ok none := by rw [String.toList_ofList]; decide +kernel

example : isFenceLine "```` ``` ```` x".toList = false := by rw [String.toList_ofList]; decide +kernel
example : isFenceLine "````scrut {a}".toList = true ∧ fenceTicks "````scrut {a}".toList = "````".toList := by
  rw [String.toList_ofList, String.toList_ofList]; decide +kernel
/-- the other lines of the harness' alphabet -/
example : extractCodeBlockStart "```a`b".toList = .ok none := by rw [String.toList_ofList]; decide +kernel
example : extractCodeBlockStart "``` `x` ```".toList = .ok none := by rw [String.toList_ofList]; decide +kernel
example : extractCodeBlockStart "````` ```` `".toList = .ok none := by rw [String.toList_ofList]; decide +kernel
/-- a brace BEHIND the backtick does not make it a fence line -/
example : extractCodeBlockStart "```` ``` ```` {x}".toList = .ok none := by rw [String.toList_ofList]; decide +kernel
/-- it is an instance of `C06_inline_code_span_not_fence` -/
example : "```` ``` ```` x".toList = List.replicate 4 '`' ++ ' ' :: "``` ```` x".toList := by
  rw [String.toList_ofList, String.toList_ofList]; decide +kernel
example : '`' ∈ (' ' :: "``` ```` x".toList).takeWhile (· ≠ '{') := by decide +kernel
example : '`' ∈ (' ' :: "``` ```` {x}".toList).takeWhile (· ≠ '{') := by decide +kernel

/-- A backtick inside the inline configuration (behind the first `{`) is part of the configuration:
the line is a fence line with that configuration (C17: `{environment: {K: "`"}}` is read back).
Between the first fix (any backtick behind the fence) and its follow-up this line was prose. -/
theorem C06_backtick_in_config_is_fence :
    extractCodeBlockStart "```scrut {environment: {K: \"`\"}}".toList
      = .ok (some ("```".toList, "scrut".toList, "{environment: {K: \"`\"}}".toList)) := by
  repeat rw [String.toList_ofList]
  decide +kernel

/-- … and the test behind it is read (before the fix: no test, the rest of the document was the
body of an unterminated verbatim block of language "```") -/
theorem C06_inline_code_span_document :
    parseLines envAll
      ["# T".toList, "```` ``` ```` x".toList, "```scrut".toList, "$ x".toList, "o".toList, "```".toList]
    = .ok { docConfigs := [], tests :=
        [{ title := ['T'], command := [['x']], exitCode := none, expectations := [['o']],
           lineNumber := 4, config := some none }] } := by
  repeat rw [String.toList_ofList]
  decide +kernel

/-! ## a line `[digits]` is an exit code or an error, never an expectation -/

/-- **C06 (no exit-code line among the expectations)**, for *every* document that parses: no
expectation of any test has the form `^\[[0-9]+\]$` -- such a line is the exit code of the test
or, with a number above `i32::MAX`, the error `exitCodeOutOfRange` (before that fix it was read
as an expectation of kind equal).  The step-level statement is `C07_exit_code_line_step`
(shared `LineParser`). -/
theorem C06_exit_code_line_never_expectation (env : Env) (text : List Char) (p : Parsed)
    (h : parseMarkdown env text = .ok p) :
    ∀ t ∈ p.tests, ∀ e ∈ t.expectations, isExitCodeForm e = false := by
  -- every test is the reading of one block (`parseLines_inv`), whose expectation lines have not that form
  intro t ht e he
  obtain ⟨i, hi⟩ := List.getElem?_of_mem ht
  -- of `BlockOf`: the lines `after` behind the command, `t.expectations = expLines after`, and what holds of these
  obtain ⟨_, _, _, _, after, _, _, _, hexp, _, _, hall, _⟩ := (parseLines_inv env _ p h).2.get' i t hi
  rw [hexp] at he
  exact (hall e he).2

/-- **regression** (witness of `C06:exit-code-out-of-range-becomes-expectation`) -/
theorem C06_exit_code_out_of_range_regression :
    parseLines envAll ["```scrut".toList, "$ x".toList, "o".toList, "[2147483648]".toList, "```".toList]
    = .error (.lineParser (.exitCodeOutOfRange 4)) := by
  repeat rw [String.toList_ofList]
  decide +kernel

/-- `i32::MAX` itself is an exit code -/
example :
    parseLines envAll ["```scrut".toList, "$ x".toList, "[2147483647]".toList, "```".toList]
    = .ok { docConfigs := [], tests :=
        [{ title := [], command := [['x']], exitCode := some 2147483647, expectations := [],
           lineNumber := 2, config := some none }] } := by
  repeat rw [String.toList_ofList]
  decide +kernel

end Scrut.Props.C06
