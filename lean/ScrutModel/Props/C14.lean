import ScrutModel.Lemmas.Exec
/-!
# C14 — Timeouts bound execution time and surface as failures

`effective` is the limit handed to the runner; `execLoop` the executor loop; `honest cmds` a runner
for commands that run `(cmds i).1` ms and then end with `(cmds i).2`, and that reports a timeout
iff the limit it was handed is reached first. Wall-clock enforcement itself (the runner really
stops waiting at the limit) is runtime behaviour, exercised with real processes by the harness.

`TC.wait` is `config.wait` of a test case: the time that passes before its command is started.
Since fix 5800e20 the wait passes BEFORE the remaining document time is looked at, so it counts
against the document limit: the limit handed to the runner for a test case is
`min(per-test limit, document limit − (time elapsed before + its own wait))`
(`C14_wait_counts`, `C14_limits_honest`). `busy cmds tcs idx` adds up the waits and the command
durations of `tcs`.

The wait is sat out no longer than what is left of the document limit (`cappedWait`, `startOf`):
the runner of a test case reached at time `now` is called at `min (now + wait) (max now L)` under a
document limit `L` (`C14_wait_capped`). `clockTrace` lists the start and end time of every runner
call of the loop (`C14_clock_is_loop` ties it to `execLoop`); with a runner that is back by the time
its limit is up the clock of a document never passes `L` (`C14_clock_within_document_limit`). What
is left of `L` after the capped wait is what is left after the whole wait, so results, outputs and
limits are those of the loop with uncapped waits (`C14_cap_changes_only_time`).
-/
namespace Scrut.Props.C14
open Scrut.Exec

/-- **C14**: the limit in force is the smaller of the per-test limit and what is left of the
document limit — whichever is reached first, whatever other limit is configured — and it is
attributed to the document exactly when the document limit is the strictly smaller one. -/
theorem C14_effective_is_min (p r : Option Nat) :
    (effective p r).2 = Scrut.Exec.minOpt p r ∧
    ((effective p r).1 = true ↔ ∃ rv, r = some rv ∧ ∀ pv, p = some pv → rv < pv) :=
  effective_is_min p r

theorem C14_total_limit (t : Option Nat) :
    totalLimit t = (match t with | none => some 900000 | some 0 => none | some (k+1) => some (k+1)) := by
  cases t with
  | none => rfl
  | some n => cases n <;> simp [totalLimit]

/-- **C14** (abort and skip): when execution stops with a timeout at test case `i`, that test case
is reported as failed (timeout), every later one as skipped, none of them as passed. -/
theorem C14_abort_and_skip (total : Option Nat) (runner : Runner) (tcs : List TC)
    (g : Bool) (i : Nat) (outs : List Out)
    (h : (execAll total runner tcs).1 = .timeout g i outs) :
    i < tcs.length ∧
    (∀ v, (i, v) ∈ runDocument tcs (.timeout g i outs) → v = .timeout) ∧
    (i, Verdict.timeout) ∈ runDocument tcs (.timeout g i outs) ∧
    (∀ j, i < j → j < tcs.length → (j, Verdict.skipped) ∈ runDocument tcs (.timeout g i outs)) ∧
    (∀ j v, i < j → (j, v) ∈ runDocument tcs (.timeout g i outs) → v = .skipped) :=
  abort_and_skip total runner tcs g i outs h

/-- **C14** (no spurious timeout): with an honest runner a timeout at test case `i` is reported
only if the command really ran at least as long as the limit it was handed. -/
theorem C14_no_spurious (total : Option Nat) (cmds : Nat → Nat × Out) (tcs : List TC)
    (hfin : ∀ i, (cmds i).2.status ≠ .timeout)
    (g : Bool) (i : Nat) (outs : List Out)
    (h : (execAll total (honest cmds) tcs).1 = .timeout g i outs) :
    ∃ l, (execAll total (honest cmds) tcs).2[i]? = some (some l) ∧ l ≤ (cmds i).1 := by
  obtain ⟨d, hi, _, _, _, lim, hl, hst⟩ := (execAll_timeout h).timeout_spec rfl
  rw [Nat.zero_add] at hi
  subst hi
  obtain ⟨l, rfl, hle⟩ := honest_timeout cmds i (hfin i) lim hst
  exact ⟨l, hl, hle⟩

/-- **C14** (enforced): with an honest runner, a command that runs at least as long as the limit
it is handed is reported as timed out. -/
theorem C14_enforced (cmds : Nat → Nat × Out) (i l : Nat) (h : l ≤ (cmds i).1) :
    ((honest cmds i (some l)).1).status = .timeout := by
  rw [honest_eq]
  simp [h]

/-- the first limit handed to the runner: `effective perTest (total − its own wait)` (nothing has
elapsed before the first test case; without a wait this is `effective perTest total`) -/
theorem C14_first_limit (total : Option Nat) (runner : Runner) (tc : TC) (rest : List TC) :
    (execAll total runner (tc :: rest)).2[0]? =
      some (effective tc.timeout ((totalLimit total).map (· - tc.wait))).2 := by
  rw [← Nat.zero_add tc.wait]
  exact execLoop_limit_head (totalLimit total) runner tc rest 0 0 [] []

/-- **C14** (the wait counts, fix 5800e20; it is capped by the document limit), one step of the
loop for ANY runner: the limit handed to the runner for the head test case `tc` reached at time
`now` is `effective tc.timeout (limit − (now + tc.wait))`; when the command completes (exit code
other than the skip code, or detached) the loop goes on with the clock at
`startOf limit tc now + elapsed` (`now + tc.wait + elapsed` unless the cap bites; `startOf` is
spelled out by `C14_wait_capped`); when the runner reports a timeout the loop ends with it,
attributed to the document iff `effective` says so. -/
theorem C14_wait_counts (limit : Option Nat) (runner : Runner) (tc : TC) (rest : List TC)
    (idx now : Nat) (acc : List Out) (limits : List (Option Nat)) :
    let eff := effective tc.timeout (limit.map (· - (now + tc.wait)))
    let r := runner idx eff.2
    (execLoop limit runner (tc :: rest) idx now acc limits).2[limits.length]? = some eff.2 ∧
    (∀ c, r.1.status = .code c → c ≠ skipCodeOf tc →
      execLoop limit runner (tc :: rest) idx now acc limits =
        execLoop limit runner rest (idx + 1) (startOf limit tc now + r.2) (acc ++ [r.1])
          (limits ++ [eff.2])) ∧
    (r.1.status = .detached →
      execLoop limit runner (tc :: rest) idx now acc limits =
        execLoop limit runner rest (idx + 1) (startOf limit tc now + r.2) (acc ++ [detachedOut])
          (limits ++ [eff.2])) ∧
    (r.1.status = .timeout →
      execLoop limit runner (tc :: rest) idx now acc limits =
        (.timeout eff.1 idx (acc ++ [r.1]), limits ++ [eff.2])) := by
  intro eff r
  -- `eff.2` is `limOf limit tc now` by definition; the hypotheses are restated with it for `execLoop_cons`
  refine ⟨execLoop_limit_head limit runner tc rest idx now acc limits, ?_, ?_, ?_⟩
  · intro c (hc : ((runner idx (limOf limit tc now)).1).status = .code c) hne
    rw [execLoop_cons, hc]
    exact if_neg hne
  · intro (hd : ((runner idx (limOf limit tc now)).1).status = .detached)
    rw [execLoop_cons, hd]
    rfl
  · intro (ht : ((runner idx (limOf limit tc now)).1).status = .timeout)
    rw [execLoop_cons, ht]
    rfl

/-- **C14** (the wait is capped): the runner of a test case that the loop reaches at time `now` is
called at `now + wait`, but under a document limit `l` not after `max now l`: a wait never moves
the clock past the document limit (a clock that is already past it — a runner that came back late
— does not move at all). In particular the start is `≤ l` whenever `now ≤ l`, it is `now + wait`
whenever that is `≤ l`, and the limit then handed to the runner is the smaller of the per-test limit
and `l − start` (which is the `l − (now + wait)` of `C14_wait_counts`, saturating). -/
theorem C14_wait_capped (limit : Option Nat) (tc : TC) (now : Nat) :
    startOf limit tc now =
      (match limit with
       | some l => min (now + tc.wait) (max now l)
       | none => now + tc.wait) ∧
    (∀ l, limit = some l → startOf limit tc now ≤ max now l) ∧
    (∀ l, limit = some l → now + tc.wait ≤ l → startOf limit tc now = now + tc.wait) ∧
    effective tc.timeout (limit.map (· - startOf limit tc now)) =
      effective tc.timeout (limit.map (· - (now + tc.wait))) := by
  refine ⟨startOf_spec limit tc now, ?_, ?_, by rw [sub_startOf]⟩
  · rintro l rfl
    rw [startOf_spec]
    exact Nat.min_le_right _ _
  · rintro l rfl h
    rw [startOf_spec]
    exact Nat.min_eq_left (Nat.le_trans h (Nat.le_max_right now l))

/-- `clockTrace` — `(start, end)` of every runner call — is the clock of `execLoop`: one entry per
runner call, and the limit handed over at the `d`-th call is
`min(per-test limit, document limit − d-th start)`. -/
theorem C14_clock_is_loop (limit : Option Nat) (runner : Runner) (tcs : List TC)
    (idx now : Nat) (acc : List Out) (limits : List (Option Nat)) :
    (execLoop limit runner tcs idx now acc limits).2 =
      limits ++ (tcs.zip (clockTrace limit runner tcs idx now)).map
        (fun p => (effective p.1.timeout (limit.map (· - p.2.1))).2) :=
  clockTrace_limits limit runner tcs idx now acc limits

/-- shape of the trace, ANY runner: the first call is started at `startOf limit tc now`, ends
`elapsed` later, and the trace goes on from that end (or stops there). -/
theorem C14_clock_step (limit : Option Nat) (runner : Runner) (tc : TC) (rest : List TC)
    (idx now : Nat) :
    ∃ e tl, clockTrace limit runner (tc :: rest) idx now = (startOf limit tc now, e) :: tl ∧
      e = startOf limit tc now +
        (runner idx (effective tc.timeout (limit.map (· - startOf limit tc now))).2).2 ∧
      (tl = [] ∨ tl = clockTrace limit runner rest (idx + 1) e) :=
  clockTrace_head limit runner tc rest idx now

/-- **C14** (a document stops once its limit has elapsed, waits included): under a document limit
`L` and a runner that is back by the time its limit is up (`Punctual`; `honest cmds` is), no
runner call of the document starts or ends after `L` on the document's clock — whatever the waits,
the per-test limits and the outcomes are. Before the cap a `wait` longer than what was left of `L`
was sat out in full and the call started (and ended) after `L`. -/
theorem C14_clock_within_document_limit (total : Option Nat) (runner : Runner)
    (hp : Punctual runner) (tcs : List TC) (L : Nat) (hL : totalLimit total = some L) :
    ∀ se ∈ clockTrace (totalLimit total) runner tcs 0 0, se.1 ≤ se.2 ∧ se.2 ≤ L := by
  intro se hse
  rw [hL] at hse
  exact (clockTrace_within L runner hp tcs 0 0 (Nat.zero_le _) se hse).2

theorem C14_honest_punctual (cmds : Nat → Nat × Out) : Punctual (honest cmds) := by
  intro i l
  rw [honest_eq]
  by_cases h : l ≤ (cmds i).1
  · simp [h]
  · simp only [h, if_false]
    omega

/-- **C14** (the cap changes the time that passes and nothing else): result, outputs, attribution
of a timeout and every limit handed to the runner are those of the loop that sits every wait out
in full (`execLoopUncapped`), for every runner. -/
theorem C14_cap_changes_only_time (limit : Option Nat) (runner : Runner) (tcs : List TC)
    (idx now : Nat) (acc : List Out) (limits : List (Option Nat)) :
    execLoop limit runner tcs idx now acc limits =
      execLoopUncapped limit runner tcs idx now acc limits :=
  execLoop_eq_uncapped limit runner tcs idx now now acc limits (fun _ _ => rfl)

/-- **C14** (every limit, honest runner): the limit handed to the runner for test case `d` is
`min(per-test limit, document limit − (waits and durations of the test cases before + its own
wait))`. -/
theorem C14_limits_honest (total : Option Nat) (cmds : Nat → Nat × Out) (tcs : List TC)
    (d : Nat) (lim : Option Nat) (h : (execAll total (honest cmds) tcs).2[d]? = some lim) :
    ∃ tc, tcs[d]? = some tc ∧
      lim = (effective tc.timeout
        ((totalLimit total).map (· - (busy cmds (tcs.take d) 0 + tc.wait)))).2 := by
  obtain ⟨news, k, hrun, -⟩ := execAll_run total (honest cmds) tcs
  obtain ⟨tc, h1, h2, -⟩ := hrun.honest_clock.1 d lim h
  exact ⟨tc, h1, by rw [h2, limOf, Nat.zero_add]⟩

/-- **C14** (the document limit bounds the document's clock, waits included): with an honest
runner and a document limit `L`, every command that was started and run to its end — every started
command `d`, except a last one that was stopped by a timeout — ended strictly before `L` on the
document's clock: waits plus durations of the test cases `0..d` are `< L`.  (Honest runner, strict
bound, in terms of `busy`; `C14_clock_within_document_limit` is the `≤` bound for any punctual
runner, in terms of `clockTrace`.) -/
theorem C14_within_document_limit (total : Option Nat) (cmds : Nat → Nat × Out) (tcs : List TC)
    (L : Nat) (hL : totalLimit total = some L) (d : Nat)
    (hd : d < (execAll total (honest cmds) tcs).2.length)
    (hc : d + 1 < (execAll total (honest cmds) tcs).2.length ∨
      ∀ g i outs, (execAll total (honest cmds) tcs).1 ≠ .timeout g i outs) :
    busy cmds (tcs.take (d + 1)) 0 < L := by
  obtain ⟨news, k, hrun, heq⟩ := execAll_run total (honest cmds) tcs
  obtain ⟨tc, -, -, h3⟩ := hrun.honest_clock.1 d _ (List.getElem?_eq_getElem hd)
  have := h3 L hL (hc.imp id (fun hc g i hk => hc g i news (by rw [heq, hk]; rfl)))
  rwa [Nat.zero_add] at this

/-- corollary: a document that ends regularly (no timeout, no skip, no aborted execution) took
less than its limit, all waits and all durations added up -/
theorem C14_ok_within_document_limit (total : Option Nat) (cmds : Nat → Nat × Out) (tcs : List TC)
    (L : Nat) (hL : totalLimit total = some L) (outs : List Out)
    (h : (execAll total (honest cmds) tcs).1 = .ok outs)
    (hu : ∀ o ∈ outs, o.status ≠ .unknown) (hne : tcs ≠ []) :
    busy cmds tcs 0 < L := by
  have hlen := ((execAll_ok h).lengths.2 rfl).2 hu
  have hpos : 0 < tcs.length := List.length_pos_iff.2 hne
  have := C14_within_document_limit total cmds tcs L hL (tcs.length - 1) (by omega)
    (.inr (fun g i o ho => by rw [h] at ho; cases ho))
  rwa [Nat.sub_add_cancel hpos, List.take_length] at this

/-- **C14** (the command that is stopped): with an honest runner whose commands do not end as
timeouts by themselves, a timeout at test case `i` means: the command ran at least as long as the
limit `l` it was handed; `l` and the attribution `g` are
`effective perTest (document limit − (waits and durations before + its own wait))`; so under a
document limit `L` the command was given at most what was left of `L` after its wait (nothing, if
the wait alone used `L` up). -/
theorem C14_stopped_within_limit (total : Option Nat) (cmds : Nat → Nat × Out) (tcs : List TC)
    (hfin : ∀ i, (cmds i).2.status ≠ .timeout)
    (g : Bool) (i : Nat) (outs : List Out)
    (h : (execAll total (honest cmds) tcs).1 = .timeout g i outs) :
    ∃ tc l, tcs[i]? = some tc ∧ (execAll total (honest cmds) tcs).2[i]? = some (some l) ∧
      l ≤ (cmds i).1 ∧
      (g, some l) = effective tc.timeout
        ((totalLimit total).map (· - (busy cmds (tcs.take i) 0 + tc.wait))) ∧
      ∀ L, totalLimit total = some L → l ≤ L - (busy cmds (tcs.take i) 0 + tc.wait) := by
  obtain ⟨d, tc, hi, htc, hlim, hg, hst⟩ := (execAll_timeout h).honest_clock.2 g i rfl
  rw [Nat.zero_add] at hi hlim hg hst
  subst hi
  obtain ⟨l, hl, hle⟩ := honest_timeout cmds i (hfin i) _ hst
  refine ⟨tc, l, htc, hl ▸ hlim, hle, by rw [hg, ← hl]; rfl, ?_⟩
  rintro L hL
  obtain ⟨l', hl', hle'⟩ := limOf_le L tc (busy cmds (tcs.take i) 0)
  rw [hL, hl'] at hl
  cases hl
  exact hle'

/-- **C14** (witness of the repaired defect): document limit 2 s; a 10 ms command, a command that
waits 1.5 s and then runs 1.5 s, a 10 ms command (`overrunTcs`, `overrunCmds`). The second command
is handed `2000 − (10 + 1500) = 490` ms, is stopped, the timeout is attributed to the document, the
third command is not run and is reported as skipped. -/
theorem C14_wait_overrun_witness :
    execAll (some 2000) (honest overrunCmds) overrunTcs =
      (.timeout true 1 [⟨.code 0, true, true⟩, ⟨.timeout, false, false⟩], [some 2000, some 490]) ∧
    runDocument overrunTcs (execAll (some 2000) (honest overrunCmds) overrunTcs).1 =
      [(0, .ok), (1, .timeout), (2, .skipped)] := by
  decide +kernel

/-- the same document on the loop as it was BEFORE the fix (`execLoopOld`: remaining time first,
wait afterwards): the second command was handed `2000 − 10 = 1990` ms ≥ 1500 ms and passed; the
document's clock stood at 3010 ms (limit 2000 ms) when the third command was stopped at once. -/
theorem C14_wait_overrun_before_fix :
    execLoopOld (totalLimit (some 2000)) (honest overrunCmds) overrunTcs 0 0 [] [] =
      (.timeout true 2 [⟨.code 0, true, true⟩, ⟨.code 0, true, true⟩, ⟨.timeout, false, false⟩],
        [some 2000, some 1990, some 0]) := by
  decide +kernel

/-- the fix changes nothing for documents in which no test case waits -/
theorem C14_fix_only_affects_waits (limit : Option Nat) (runner : Runner) (tcs : List TC)
    (h : ∀ tc ∈ tcs, tc.wait = 0) (idx now : Nat) (acc : List Out) (limits : List (Option Nat)) :
    execLoopOld limit runner tcs idx now acc limits = execLoop limit runner tcs idx now acc limits :=
  execLoopOld_eq_of_no_wait limit runner tcs h idx now acc limits

/-! The two limits of the bug report side by side: after 10 ms, with a wait of 1.5 s. -/
example : effective none (some (2000 - 10)) = (true, some 1990) := by decide +kernel
example : effective none (some (2000 - (10 + 1500))) = (true, some 490) := by decide +kernel

/-! Non-vacuity of `C14_within_document_limit` / `C14_ok_within_document_limit`: a wait of 1 s and
a command of 0.5 s fit into 2 s; `busy` adds them up. -/
example :
    (execAll (some 2000) (honest (fun _ => (500, ⟨.code 0, true, true⟩)))
      [⟨none, .stdout, none, none, true, 1000⟩]) = (.ok [⟨.code 0, true, true⟩], [some 1000]) ∧
    busy (fun _ => (500, (⟨.code 0, true, true⟩ : Out))) [⟨none, .stdout, none, none, true, 1000⟩] 0
      = 1500 := by
  decide +kernel

/-! A wait that alone uses the document limit up: the command is handed 0 ms and stopped at once. -/
example :
    (execAll (some 1000) (honest (fun _ => (5, ⟨.code 0, true, true⟩)))
      [⟨none, .stdout, none, none, true, 3000⟩]) =
      (.timeout true 0 [⟨.timeout, false, false⟩], [some 0]) := by
  decide +kernel

/-! Non-vacuity of `C14_wait_capped` / `C14_clock_within_document_limit`: document limit 1 s, a
5 ms command behind a wait of 3 s, then a 5 ms command. The wait alone exceeds the limit: it is
sat out for 1 s, the runner is called at 1000 ms (not at 3000 ms) with 0 ms left, is stopped at
once, the timeout is attributed to the document, the second test case is skipped. -/
example :
    startOf (some 1000) ⟨none, .stdout, none, none, true, 3000⟩ 0 = 1000 ∧
    clockTrace (totalLimit (some 1000)) (honest (fun _ => (5, ⟨.code 0, true, true⟩)))
      [⟨none, .stdout, none, none, true, 3000⟩, ⟨none, .stdout, none, none, true, 0⟩] 0 0
      = [(1000, 1000)] ∧
    execAll (some 1000) (honest (fun _ => (5, ⟨.code 0, true, true⟩)))
      [⟨none, .stdout, none, none, true, 3000⟩, ⟨none, .stdout, none, none, true, 0⟩]
      = (.timeout true 0 [⟨.timeout, false, false⟩], [some 0]) ∧
    runDocument [⟨none, .stdout, none, none, true, 3000⟩, ⟨none, .stdout, none, none, true, 0⟩]
      (.timeout true 0 [⟨.timeout, false, false⟩]) = [(0, .timeout), (1, .skipped)] := by
  decide +kernel

/-! ... and a wait that fits is sat out in full, also after time has passed: 200 ms command, then
wait 500 ms + 100 ms command under 1 s: calls at 0–200 and 700–800. -/
example :
    clockTrace (totalLimit (some 1000)) (honest (fun i => (if i = 0 then 200 else 100, ⟨.code 0, true, true⟩)))
      [⟨none, .stdout, none, none, true, 0⟩, ⟨none, .stdout, none, none, true, 500⟩] 0 0
      = [(0, 200), (700, 800)] := by
  decide +kernel

/-! Non-vacuity: per-test 5 s, document 1 s, command 3 s → timeout attributed to the document. -/
example :
    (execAll (some 1000) (honest (fun _ => (3000, ⟨.code 0, true, true⟩)))
      [⟨none, .stdout, none, some 5000, true, 0⟩]).1 = .timeout true 0 [⟨.timeout, false, false⟩] := by
  decide +kernel

end Scrut.Props.C14
