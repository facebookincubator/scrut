import ScrutModel.Lemmas.OneLinerAll
/-!
# C17 — Configuration survives being written out and read back

Model: `Scrut.Dur` (humantime 2.4 `format_duration` / `parse_duration`, checked `u64` arithmetic,
the `Duration::new` panic as `crash`), `Scrut.Yaml` (`TestCaseConfig::to_yaml_one_liner`
= `toOneLiner`, serde_json string quoting = `jsonQuote`, and `parseFlow`: libyaml's reader check,
flow-context scalar scanning, the 1024-byte simple-key rule, serde_yaml's scalar resolution and the
typed layer of `TestCaseConfig`). All of it is tied to the real code on every run by the
correspondence harness (`harness/src/yamlcfg.rs`).

Proved here for ALL values:
* `C17_one_liner`: **every** configuration of the model's config type — any subset of the 8 keys, any
  stream/booleans, any `i32` skip code, any durations, `wait` in both forms with any path,
  `environment` with any names and values (quotes, backslashes, colons, braces, commas, `#`, blanks,
  control characters, any Unicode) — is read back from its one-line form exactly, under the decidable
  guard `Renderable`:
  durations are `Duration`s (`secs < 2^64`, `nanos < 10^9`), the skip code is an `i32` (both are
  invariants of the Rust types) and every environment name renders to a key of at most 1024 UTF-8
  bytes (names over 1024 bytes, 1022 when they have to be quoted: the REAL code does not round-trip
  them — open finding `C17:long-key`, `C17_fails_on_long_name`). Each conjunct of the guard is
  necessary: `C17_guard_*` witnesses.
* the ingredients: durations (`C17_duration_roundtrip`), quoted strings (`C17_quote_roundtrip`,
  `C17_quoted_scalar_in_context`), the parser side for any rendered pieces
  (`C17_rendered_ast_reads_back`), the scalar-key corollary (`C17_one_liner_scalars`).

The environment is the ascending entry list of the `BTreeMap`; the theorem holds for any list (the
parser returns the entries in document order), so no distinctness hypothesis is needed.
Front-matter (`DocumentConfig` through serde_yaml's block emitter) and the code-fence embedding are
not modelled: direct oracle on the real code only.
-/
namespace Scrut.Props.C17
open Scrut.Dur Scrut.Yaml

/-- **C17 (durations)**: for every `Duration` (any `secs < 2^64`, `nanos < 10^9`) the text written
by `humantime::format_duration` is read by `humantime::parse_duration` as the same duration: no
error, no overflow, no panic, same seconds and nanoseconds. -/
theorem C17_duration_roundtrip (secs nanos : Nat) (hn : nanos < 1000000000)
    (hs : secs ≤ 18446744073709551615) :
    parseDuration (formatDuration secs nanos) = .ok ⟨secs, nanos⟩ :=
  duration_roundtrip secs nanos hn hs

/-- **C17 (quoted strings)**: for every string (quotes, backslashes, control characters, any
Unicode) the JSON-quoted form written by `yaml_quoted` is a complete double-quoted YAML scalar whose
content is the string, character for character. -/
theorem C17_quote_roundtrip (s : List Char) : unquote (jsonQuote s) = some s :=
  quote_roundtrip s

/-- … and placed in front of any following text (`, next: …}`), the scalar scanner consumes exactly
the quoted form and yields the string: quoting can never swallow or leak into its context. -/
theorem C17_quoted_scalar_in_context (s tail : List Char) :
    scanScalar (jsonQuote s ++ tail) = some (.quoted s, tail) :=
  scan_jsonQuote s tail

/-- **C17 (the parser side, all rendered pieces)**: a list of `key: value` pieces (values: scalars
or one nested mapping) whose plain scalars are tokens and whose keys render to at most 1024 bytes
(`GoodKV`), joined with `, ` and wrapped in braces, passes the reader, contains no line break, is
split into exactly these keys and values, and is handed to the typed layer `interp` unchanged.
Quoted scalars may contain anything. -/
theorem C17_rendered_ast_reads_back (a : Ast) (c : Cfg) (h : a.all GoodKV = true)
    (hi : interp a = .ok c) : parseFlow (Ast.render a) = .ok c :=
  parseFlow_render a c h hi

/-- the guard of C17 as a proposition (`renderable` is the Boolean function) -/
def Renderable (c : Cfg) : Prop := renderable c = true

instance (c : Cfg) : Decidable (Renderable c) := inferInstanceAs (Decidable (renderable c = true))

/-- **C17**: every renderable configuration survives `to_yaml_one_liner` followed by
`serde_yaml::from_str` (as modelled by `parseFlow`): same stream, booleans, code, durations, wait
settings and environment names and values, character for character. -/
theorem C17_one_liner (c : Cfg) (h : Renderable c) : parseFlow (toOneLiner c) = .ok c :=
  parseFlow_render _ c (reads_toAst c h).1 (interp_toAst c h)

/-- **C17 (scalar keys)**: every configuration that sets any subset of output_stream, keep_crlf,
timeout, detached, strip_ansi_escaping — any stream, any booleans, any duration with
`secs < 2^64`, `nanos < 10^9` — is read back from its one-line form exactly. -/
theorem C17_one_liner_scalars (c : Cfg) (h : ScalarOnly c) : parseFlow (toOneLiner c) = .ok c := by
  obtain ⟨h1, h2, h3, hd⟩ := h
  refine C17_one_liner c ((renderable_iff c).mpr ⟨hd, ?_, ?_, ?_⟩)
  · intro w hw; rw [h2] at hw; cases hw
  · intro i hi; rw [h1] at hi; cases hi
  · rw [h3]; rfl

/-- all five scalar keys set, largest duration -/
def scalarExample : Cfg :=
  { outputStream := some .combined, keepCrlf := some false,
    timeout := some (18446744073709551615, 999999999), detached := some true,
    stripAnsi := some false }

/-- non-vacuity of `ScalarOnly` -/
example : ScalarOnly scalarExample :=
  ⟨rfl, rfl, rfl, fun d hd => by cases hd; exact ⟨by decide, by decide⟩⟩

/-- all eight keys set, values with quotes, backslash, braces, commas, `#`, colon, blanks, a
control character and non-ASCII text -/
def fullExample : Cfg :=
  { outputStream := some .stderr, keepCrlf := some true, timeout := some (234, 5000000),
    detached := some false, skipCode := some (-123), stripAnsi := some true,
    wait := some ⟨(18446744073709551615, 999999999), some ['a', ' ', 'b', ':', ' ', '{', 'c', '}']⟩,
    env := [(['F', 'O', 'O'], ['"', '\\', ' ', '{', '}', ',', ' ', '#', ':', ' ', 'é', '\t', Char.ofNat 1]),
            (['t', 'r', 'u', 'e'], []), ([' '], ['~'])] }

theorem C17_one_liner_example : parseFlow (toOneLiner fullExample) = .ok fullExample := by decide +kernel

theorem C17_one_liner_empty : parseFlow (toOneLiner {}) = .ok {} := by decide +kernel

/-- regression example for fix d9da776: values, a name and a path made of the characters that JSON
leaves unescaped but a YAML stream rejects (U+007F, U+0080, U+009F, U+FFFE, U+FFFF) or folds as
line breaks (U+0085, U+2028 and U+2029 between blanks) -/
def unreadableExample : Cfg :=
  { wait := some ⟨(1, 0), some [Char.ofNat 0x7f, '/', Char.ofNat 0x85]⟩,
    env := [(['K'], [Char.ofNat 0x7f, Char.ofNat 0x80, Char.ofNat 0x9f, Char.ofNat 0xfffe, Char.ofNat 0xffff]),
            (['L'], [' ', Char.ofNat 0x2028, ' ', Char.ofNat 0x85, ' ', Char.ofNat 0x2029, ' ']),
            ([Char.ofNat 0x2028], ['x'])] }

/-- since d9da776 `yaml_quoted` writes these characters as `\uXXXX`: the configuration reads back
(before the fix the reader rejected the text or folded the line breaks into blanks) -/
theorem C17_one_liner_unreadable_chars :
    parseFlow (toOneLiner unreadableExample) = .ok unreadableExample := by decide +kernel

def longNameWitness : Cfg := { env := [(List.replicate 1025 'a', ['v'])] }

/-- **the real code violates C17 here**: YAML only accepts mapping keys of at most 1024 bytes on
one line ("simple keys"); a longer environment variable name is written out but not read back. -/
theorem C17_fails_on_long_name : parseFlow (toOneLiner longNameWitness) = .error := by decide +kernel

/-- non-vacuity of `Renderable`: the example with all eight keys and hostile strings satisfies it -/
theorem C17_renderable_example : Renderable fullExample ∧ Renderable unreadableExample ∧ Renderable {} := by
  decide +kernel

/-- the guard excludes the long-name witness (and `C17_fails_on_long_name` shows it must) -/
theorem C17_guard_long_name : ¬ Renderable longNameWitness := by
  intro h
  have := C17_one_liner _ h
  rw [C17_fails_on_long_name] at this
  cases this

/-- the guard is necessary for seconds: 2^64 s is written as `584542046090years …` and overflows
the `u64` arithmetic of `parse_duration` -/
theorem C17_guard_secs : parseFlow (toOneLiner { timeout := some (18446744073709551616, 0) }) = .error := by
  decide +kernel

/-- the guard is necessary for nanoseconds: (0 s, 10^9 ns) is written `1000ms` and reads back as 1 s -/
theorem C17_guard_nanos :
    parseFlow (toOneLiner { timeout := some (0, 1000000000) }) = .ok { timeout := some (1, 0) } := by
  decide +kernel

/-- the guard is necessary for the skip code: 2^31 is not an `i32` -/
theorem C17_guard_skip_code : parseFlow (toOneLiner { skipCode := some 2147483648 }) = .error := by
  decide +kernel

/-- non-vacuity of the duration hypotheses, largest value -/
example : parseDuration (formatDuration 18446744073709551615 999999999) =
    .ok ⟨18446744073709551615, 999999999⟩ :=
  C17_duration_roundtrip _ _ (by decide) (by decide)

example : unquote (jsonQuote ['"', '\\', '\n', Char.ofNat 0, 'é']) = some ['"', '\\', '\n', Char.ofNat 0, 'é'] :=
  C17_quote_roundtrip _

end Scrut.Props.C17
