import ScrutModel.Lemmas.DiffC03iff
/-!
# C03 — No false failure when the expectations are deterministic

Configurations `(i, o)`: expectations before `i` are done; `o = true` means expectation `i` is
multiline and already holds a line. `Cand i o k`: expectation `k` may legally take the next line.
`Det i o j`: reading lines `j..m` from `(i, o)`, at every step at most one candidate matches the
current line (one-line lookahead). `NAcc` is acceptance by the NFA of `e1{q1} … en{qn}`;
`Assignment` is the declarative notion used by C01.
-/
namespace Scrut.Props.C03
open Scrut.Diff

/-- **C03** (completeness): deterministic ∧ described by the expectations ⇒ reported as a match. -/
theorem C03_complete (n m : Nat) (es : Nat → Exp) (mt : Nat → Nat → Bool)
    (hacc : NAcc n m es mt 0 false 0) (hdet : Det n m es mt 0 false 0) :
    hasDiff (diff n m es mt) = false :=
  Scrut.Diff.C03_complete n m es mt hacc hdet

/-- **C03**: under determinism, a match is reported exactly when the output is described. -/
theorem C03_iff (n m : Nat) (es : Nat → Exp) (mt : Nat → Nat → Bool)
    (hdet : Det n m es mt 0 false 0) :
    hasDiff (diff n m es mt) = false ↔ ∃ a, Assignment n m es mt a :=
  Scrut.Diff.C03_iff n m es mt hdet

/-- every list without quantifiers is deterministic -/
theorem det_of_no_quantifiers (n m : Nat) (es : Nat → Exp) (mt : Nat → Nat → Bool)
    (hq : ∀ i, es i = ⟨false, false⟩) : ∀ d j, m - j = d → Det n m es mt j false j := by
  intro d
  induction d with
  | zero => intro j h; exact Det.done (by omega)
  | succ d ih =>
    intro j h
    have cand_eq : ∀ k, Cand n es j false k → k = j :=
      fun k hk => cand_eq_of_required (by rw [hq j]) hk
    refine Det.step (by omega) (fun k k' hk _ hk' _ => by rw [cand_eq k hk, cand_eq k' hk']) fun k hk _ => ?_
    cases cand_eq k hk
    simp only [nextI, nextO, hq j]
    exact ih (j+1) (by omega)

/-- **C03** (own lines): expectations that are simply the output's own lines always pass. -/
theorem C03_own_lines (n : Nat) (es : Nat → Exp) (mt : Nat → Nat → Bool)
    (hq : ∀ i, es i = ⟨false, false⟩) (hown : ∀ i, i < n → mt i i = true) :
    hasDiff (diff n n es mt) = false := by
  -- line `j` goes to expectation `j`
  refine (Scrut.Diff.C03_iff n n es mt (det_of_no_quantifiers n n es mt hq n 0 rfl)).2 ⟨List.range n, ?_⟩
  exact ⟨List.length_range, List.pairwise_le_range, fun i hi => List.mem_range.1 hi,
    fun j h => by rw [List.getElem_range]; exact hown j (by rwa [List.length_range] at h),
    fun i hi _ => List.mem_range.2 hi, fun i _ _ => List.nodup_iff_count.1 List.nodup_range i⟩

/-- The determinism hypothesis cannot be dropped: the greedy matcher is incomplete in general.
`foo (*)`, `foo` against two lines `foo`: the language contains the output, the matcher reports
differences. -/
theorem greedy_incomplete_witness :
    ∃ (es : Nat → Exp) (mt : Nat → Nat → Bool),
      (∃ a, Assignment 2 2 es mt a) ∧ hasDiff (diff 2 2 es mt) = true := by
  refine ⟨fun i => if i = 0 then ⟨true, true⟩ else ⟨false, false⟩, fun _ _ => true, ⟨[0, 1], ?_⟩, ?_⟩
  · refine ⟨rfl, by simp, by simp, ?_, ?_, ?_⟩
    · intro j hj; rfl
    · intro i hi ho
      have : i = 1 := by
        rcases i with _ | _ | i
        · simp at ho
        · rfl
        · omega
      subst this; simp
    · intro i hi hm
      rcases i with _ | _ | i
      · simp at hm
      · simp
      · omega
  · decide +kernel

/-! Non-vacuity of `Det`/`NAcc`: `C03_own_lines` instantiates both hypotheses for every `n`. -/
example : hasDiff (diff 3 3 (fun _ => ⟨false, false⟩) (fun i j => i == j)) = false :=
  C03_own_lines 3 _ _ (fun _ => rfl) (by intro i _; simp)

end Scrut.Props.C03
