import ScrutModel.Lemmas.Exec
import ScrutModel.Lemmas.TestRunProps
import ScrutModel.Lemmas.TestRunScript
/-!
# C20 — Every test runs once, in order; exit status 0 / 50 / 1

The runner is called once per test case, for indices `0, 1, 2, …` in this order (the recorded
`limits` list has one entry per call). `runDocument` yields the reported outcomes.

The second half (`C20_integrated_…`, `C20_document_…`, `C20_script_…`) states the property about the
INTEGRATED model of `scrut test` (`Model/TestRun.lean`: bytes of the document → parser →
configuration → rules → executor → validation → exit status), which the correspondence streams
`e2e-testdoc`, `e2e-testcram`, `e2e-testdoc-cram-compat` tie to the binary: for every document and
every list of completed runs.
-/
namespace Scrut.Props.C20
open Scrut.Exec

/-- the test cases of a document run: prepend documents, own, append documents -/
def assemble (prepend own append : List TC) : List TC := prepend ++ own ++ append

/-- **C20** (once, in order): the runner is called for a prefix `0 … k-1` of the test cases, each
index exactly once, in order; and for all of them when the execution ends regularly without an
aborted (`unknown`) execution. -/
theorem C20_calls (total : Option Nat) (runner : Runner) (tcs : List TC) :
    (execAll total runner tcs).2.length ≤ tcs.length ∧
    (∀ outs, (execAll total runner tcs).1 = .ok outs → outs.length = tcs.length) ∧
    (∀ outs, (execAll total runner tcs).1 = .ok outs → (∀ o ∈ outs, o.status ≠ .unknown) →
        (execAll total runner tcs).2.length = tcs.length) := by
  obtain ⟨news, k, hrun, -⟩ := execAll_run total runner tcs
  exact ⟨hrun.lengths.1, fun outs h => ((execAll_ok h).lengths.2 rfl).1,
    fun outs h hu => ((execAll_ok h).lengths.2 rfl).2 hu⟩

/-- **C20** (results): at most one result per test case, in test order, only for existing test
cases; exactly one for every test case whose execution was not detached. -/
theorem C20_one_result (total : Option Nat) (runner : Runner) (tcs : List TC) :
    let r := (execAll total runner tcs).1
    ((runDocument tcs r).map (·.1)).Pairwise (· < ·) ∧
    (∀ o ∈ runDocument tcs r, o.1 < tcs.length) ∧
    (∀ outs, r = .ok outs → ∀ i, i < tcs.length →
        ((∃ v, (i, v) ∈ runDocument tcs r) ↔ ∃ o, outs[i]? = some o ∧ o.status ≠ .detached)) := by
  intro r
  have hsub := runDocument_sublist tcs r
  refine ⟨List.pairwise_lt_range.sublist hsub,
    fun o ho => List.mem_range.1 (hsub.subset (List.mem_map_of_mem ho)), ?_⟩
  intro outs hr i hi
  rw [hr, runDocument_ok]
  exact exists_mem_judge_zero outs hi

/-- **C20** (exit status): 1 iff some document could not be processed, otherwise 50 iff some test
case failed validation or timed out, otherwise 0. -/
theorem C20_exit_status (docs : List (Option (List Outcome))) :
    (exitStatus docs = 1 ↔ ∃ d ∈ docs, d = none) ∧
    (exitStatus docs = 50 ↔ (∀ d ∈ docs, d ≠ none) ∧ ∃ d ∈ docs, ∃ os, d = some os ∧ ∃ o ∈ os, isFailure o.2 = true) ∧
    (exitStatus docs = 0 ↔ (∀ d ∈ docs, d ≠ none) ∧ ∀ d ∈ docs, ∀ os, d = some os → ∀ o ∈ os, isFailure o.2 = false) ∧
    (exitStatus docs = 0 ∨ exitStatus docs = 50 ∨ exitStatus docs = 1) :=
  exitStatus_spec docs

/-- what counts as a failure: everything but success and skipped (wrong output, wrong exit code,
timeout, aborted execution) -/
theorem C20_failure_kinds (v : Verdict) : isFailure v = true ↔ v ≠ .ok ∧ v ≠ .skipped := by
  cases v <;> simp [isFailure]

theorem C20_assemble (p o a : List TC) (i : Nat) :
    (assemble p o a)[i]? =
      if i < p.length then p[i]? else if i < p.length + o.length then o[i - p.length]?
      else a[i - p.length - o.length]? := by
  rw [assemble, List.append_assoc, List.getElem?_append, List.getElem?_append]
  by_cases h : i < p.length
  · rw [if_pos h, if_pos h]
  · rw [if_neg h, if_neg h]
    simp only [Nat.sub_lt_iff_lt_add' (Nat.le_of_not_lt h)]

example : exitStatus [some [(0, .ok)], some [(0, .ok), (1, .malformed)]] = 50 := by decide +kernel
example : exitStatus [some [(0, .ok)], none] = 1 := by decide +kernel
example : exitStatus [some [(0, .ok), (1, .skipped)]] = 0 := by decide +kernel

/-! ## through the composition: `scrut test` on one document (`Model/TestRun.lean`) -/

section Integrated
open Scrut.TestRun

/-- **C20, integrated** (`runTests`: the prepared tests of a document and the completed runs of
their commands): every test case gets exactly one result, in document order (in the covered
fragment no test is detached); the exit status is 50 iff some verdict is a failure, 0 iff none is,
never 1. -/
theorem C20_integrated_one_result {tests : List Test} {runs : List Ran} {outcomes : List Outcome}
    {status : Nat} (h : runTests tests runs = .report outcomes status) :
    outcomes.map (·.1) = List.range tests.length ∧
    (status = 50 ↔ ∃ o ∈ outcomes, isFailure o.2 = true) ∧
    (status = 0 ↔ ∀ o ∈ outcomes, isFailure o.2 = false) ∧
    status ≠ 1 := by
  obtain ⟨_, hst, hcases⟩ := runTests_report h
  refine ⟨?_, hst ▸ exitStatus_one_spec outcomes⟩
  rcases hcases with ⟨_, rfl⟩ | ⟨_, ho, _⟩
  · exact map_fst_skippedAll _
  · exact ho

/-- **C20, integrated, from the bytes of the document**: a report has one result per test case of
the PARSED document, in document order, and the exit status 0 / 50 of its verdicts. -/
theorem C20_document_one_result {bytes : Bytes} {runs : List Ran} {outcomes : List Outcome}
    {status : Nat} (h : testDocumentBytes bytes runs = .report outcomes status) :
    ∃ text p tests, readFile bytes = .ok text ∧ Markdown.parseMarkdown parseEnv text = .ok p ∧
      p.tests.mapM prepare = .ok tests ∧
      outcomes.map (·.1) = List.range p.tests.length ∧
      (status = 50 ↔ ∃ o ∈ outcomes, isFailure o.2 = true) ∧
      (status = 0 ↔ ∀ o ∈ outcomes, isFailure o.2 = false) ∧
      status ≠ 1 := by
  obtain ⟨tests, ⟨text, p, h1, h2, _, h4⟩, hr⟩ := (testDocumentBytes_report_iff ..).1 h
  obtain ⟨r1, r⟩ := C20_integrated_one_result hr
  exact ⟨text, p, tests, h1, h2, h4, by rw [r1, (mapM_except_pairs _ _ _ h4).length_eq], r⟩

/-- … and from the text of the document (`testDocument`, behind `read_file`) -/
theorem C20_text_one_result {text : List Char} {runs : List Ran} {outcomes : List Outcome}
    {status : Nat} (h : testDocument text runs = .report outcomes status) :
    ∃ p tests, Markdown.parseMarkdown parseEnv text = .ok p ∧ p.tests.mapM prepare = .ok tests ∧
      outcomes.map (·.1) = List.range p.tests.length ∧
      (status = 50 ↔ ∃ o ∈ outcomes, isFailure o.2 = true) ∧
      (status = 0 ↔ ∀ o ∈ outcomes, isFailure o.2 = false) ∧
      status ≠ 1 := by
  obtain ⟨p, tests, h2, _, h4, hr⟩ := testDocument_report_inv h
  obtain ⟨r1, r⟩ := C20_integrated_one_result hr
  exact ⟨p, tests, h2, h4, by rw [r1, (mapM_except_pairs _ _ _ h4).length_eq], r⟩

/-- **the lifting**: the report on the bytes of a document is the report of `runTests` on the
document's prepared tests (`DocTests bytes tests`: readable, parsed, harmless front-matter, every
test case inside the composition) -/
theorem C20_document_report_iff (bytes : Bytes) (runs : List Ran) (outcomes : List Outcome)
    (status : Nat) :
    testDocumentBytes bytes runs = .report outcomes status ↔
      ∃ tests, DocTests bytes tests ∧ runTests tests runs = .report outcomes status :=
  testDocumentBytes_report_iff bytes runs outcomes status

/-- **which result on which path** (`runTests`): too few runs are `missingRun`; otherwise there IS a
report -- the composition is total on prepared tests: no crash, never `unsupported` (every rule
decides every line: the lossy decoder never runs out of fuel, `render_output` never panics) -/
theorem C20_integrated_result_kinds (tests : List Test) (runs : List Ran) :
    (runs.length < tests.length → runTests tests runs = .missingRun) ∧
    (tests.length ≤ runs.length → ∃ outcomes status, runTests tests runs = .report outcomes status) :=
  runTests_kinds tests runs

/-- **which result on which path** (document): `parseError` (exit status 1, nothing reported)
exactly when the bytes are not UTF-8 after CR LF → LF or the Markdown parser rejects the text; such
a document never yields a report -/
theorem C20_document_parse_error_iff (bytes : Bytes) (runs : List Ran) :
    testDocumentBytes bytes runs = .parseError ↔
      readFile bytes = .error .notUtf8 ∨
      ∃ text e, readFile bytes = .ok text ∧ Markdown.parseMarkdown parseEnv text = .error e :=
  testDocumentBytes_parseError_iff bytes runs

/-- **`scrut test` on one document in closed form**: given a run for every test the report is
`expectedOutcomes` (every test `skipped` if some test ended with its skip code, otherwise test `i`
with `verdict tests[i] runs[i]`) and the exit status of these verdicts -/
theorem C20_document_closed_form {bytes : Bytes} {tests : List Test} (runs : List Ran)
    (hd : DocTests bytes tests) (hlen : tests.length ≤ runs.length) :
    testDocumentBytes bytes runs = .report (expectedOutcomes tests runs)
      (if (expectedOutcomes tests runs).any (fun o => isFailure o.2) then 50 else 0) := by
  rw [testDocumentBytes_eq_runTests runs hd, runTests_eq tests runs hlen]

/-- … the same for `runTests` -/
theorem C20_integrated_closed_form (tests : List Test) (runs : List Ran)
    (hlen : tests.length ≤ runs.length) :
    runTests tests runs = .report (expectedOutcomes tests runs)
      (if (expectedOutcomes tests runs).any (fun o => isFailure o.2) then 50 else 0) :=
  runTests_eq tests runs hlen

/-- **C20, single-script executor** (`runScript`: Cram documents and `--cram-compat`): one result
per test case, in document order; exit status 0 / 50 -/
theorem C20_script_one_result {tests : List Test} {runs : List SRan} {outcomes : List Outcome}
    {status : Nat} (h : runScript tests runs = .report outcomes status) :
    outcomes.map (·.1) = List.range tests.length ∧
    (status = 50 ↔ ∃ o ∈ outcomes, isFailure o.2 = true) ∧
    (status = 0 ↔ ∀ o ∈ outcomes, isFailure o.2 = false) ∧
    status ≠ 1 := by
  obtain ⟨_, hst, hcases⟩ := runScript_report h
  refine ⟨?_, hst ▸ exitStatus_one_spec outcomes⟩
  rcases hcases with rfl | ⟨ho, _⟩
  · exact map_fst_skippedAll _
  · exact ho

/-- … from the bytes of a Cram document -/
theorem C20_cram_document_one_result {bytes : Bytes} {runs : List SRan} {outcomes : List Outcome}
    {status : Nat} (h : testCramDocumentBytes bytes runs = .report outcomes status) :
    ∃ text pre ts, readFile bytes = .ok text ∧ Cram.parseCram expOk 2 text = .ok (pre, ts) ∧
      outcomes.map (·.1) = List.range ts.length ∧
      (status = 50 ↔ ∃ o ∈ outcomes, isFailure o.2 = true) ∧
      (status = 0 ↔ ∀ o ∈ outcomes, isFailure o.2 = false) ∧
      status ≠ 1 := by
  obtain ⟨tests, ⟨text, pre, ts, h1, h2, h3⟩, hr⟩ := (testCramDocumentBytes_report_iff ..).1 h
  obtain ⟨r1, r⟩ := C20_script_one_result hr
  exact ⟨text, pre, ts, h1, h2, by rw [r1, (mapM_except_pairs _ _ _ h3).length_eq], r⟩

/-- … from the bytes of a Markdown document under `--cram-compat` -/
theorem C20_compat_document_one_result {bytes : Bytes} {runs : List SRan}
    {outcomes : List Outcome} {status : Nat}
    (h : testDocumentCompatBytes bytes runs = .report outcomes status) :
    ∃ text p, readFile bytes = .ok text ∧ Markdown.parseMarkdown parseEnv text = .ok p ∧
      outcomes.map (·.1) = List.range p.tests.length ∧
      (status = 50 ↔ ∃ o ∈ outcomes, isFailure o.2 = true) ∧
      (status = 0 ↔ ∀ o ∈ outcomes, isFailure o.2 = false) ∧
      status ≠ 1 := by
  obtain ⟨tests, ⟨text, p, h1, h2, _, h4⟩, hr⟩ := (testDocumentCompatBytes_report_iff ..).1 h
  obtain ⟨r1, r⟩ := C20_script_one_result hr
  exact ⟨text, p, h1, h2, by rw [r1, (mapM_except_pairs _ _ _ h4).length_eq], r⟩

/-! Non-vacuity, evaluated by the kernel from the BYTES of a document with two test cases (`exBytes`:
one `equal` expectation on stdout; `{output_stream: stderr}`, a glob and an optional expectation,
`[3]`): all pass / the second one's output is wrong / the bytes are not UTF-8 / the parser rejects
the text; `exTests` are its prepared tests. -/
example : testDocumentBytes exBytes exRuns = .report [(0, .ok), (1, .ok)] 0 := ex_report
example : testDocumentBytes exBytes exRunsBad = .report [(0, .ok), (1, .malformed)] 50 := ex_report_bad
example : DocTests exBytes exTests := ex_docTests
example : runTests exTests exRuns = .report [(0, .ok), (1, .ok)] 0 := ex_runTests
example : testDocumentBytes [0x23, 0xff] [] = .parseError := ex_not_utf8
example : testDocumentBytes (Utf8.utf8 "```scrut\nfoo\n```\n".toList) [] = .parseError := ex_parse_error
/-- a Cram document with two test cases, the second ends with 0 instead of 1; a Markdown document
under `--cram-compat` -/
example : testCramDocumentBytes exCramBytes exCramRuns = .report [(0, .ok), (1, .invalidExit 0 1)] 50 :=
  ex_cram_report
example : testDocumentCompatBytes (Utf8.utf8 "# t\n\n```scrut\n$ echo a\na\n```\n".toList)
    [⟨⟨[97, 10], [], 0⟩, false⟩] = .report [(0, .ok)] 0 := ex_compat_report

end Integrated

end Scrut.Props.C20
