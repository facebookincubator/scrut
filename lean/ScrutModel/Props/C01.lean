import ScrutModel.Lemmas.DiffC03iff
import ScrutModel.Lemmas.TestRunProps
/-!
# C01 — No false pass

Model: `Scrut.Diff.diff n m es mt` is the transliteration of `DiffTool::diff` (src/diff.rs) over
`n` expectations with quantifier flags `es i` and `m` output lines, where `mt i j` says whether
expectation `i` matches line `j` (any rule implementation). `hasDiff` is `Diff::has_differences`.

Statement: a result without differences yields an assignment `a` of the `m` lines to expectations
(`a[j]` = expectation of line `j`): total (no gaps), in order, every line matches its expectation,
every non-optional expectation receives at least one line, every non-multiline one at most one.

The second half (`C01_integrated_…`, `C01_document_…`) states the property about the INTEGRATED
model of `scrut test` (`Model/TestRun.lean`, tied to the binary by `e2e-testdoc`): the match table is
not abstract there, it is `Rule.matches` of the COMPILED expectations of the document's test on the
lines (`split_at_newline`) of the recorded stream.
-/
namespace Scrut.Props.C01
open Scrut.Diff

/-- **C01**: a reported match implies membership in `e1{q1} … en{qn}`. -/
theorem C01_no_false_pass (n m : Nat) (es : Nat → Exp) (mt : Nat → Nat → Bool)
    (h : hasDiff (diff n m es mt) = false) : ∃ a, Assignment n m es mt a :=
  Scrut.Diff.C01_no_false_pass n m es mt h

/-- The assignment spelled out (so the statement can be read without opening the structure). -/
theorem C01_spelled_out (n m : Nat) (es : Nat → Exp) (mt : Nat → Nat → Bool)
    (h : hasDiff (diff n m es mt) = false) :
    ∃ a : List Nat, a.length = m ∧ a.Pairwise (· ≤ ·) ∧ (∀ i ∈ a, i < n) ∧
      (∀ j (hj : j < a.length), mt a[j] j = true) ∧
      (∀ i, i < n → (es i).optional = false → i ∈ a) ∧
      (∀ i, i < n → (es i).multiline = false → a.count i ≤ 1) := by
  obtain ⟨a, ha⟩ := Scrut.Diff.C01_no_false_pass n m es mt h
  exact ⟨a, ha.total, ha.inOrder, ha.inRange, ha.isMatch, ha.atLeast, ha.atMost⟩

/-- `hasDiff` is exactly "some entry is not a matched expectation" (`Diff::has_differences`). -/
theorem hasDiff_false_iff (d : List DL) : hasDiff d = false ↔ ∀ x ∈ d, ∃ i ls, x = .matched i ls :=
  Scrut.Diff.hasDiff_false_iff d

/-! Non-vacuity: the hypothesis is met by a run with a multiline expectation (`+`) followed by a
plain one on three lines; the conclusion is then the assignment `[0, 0, 1]`. -/
def exEs : Nat → Exp := fun i => if i = 0 then ⟨false, true⟩ else ⟨false, false⟩
def exMt : Nat → Nat → Bool := fun i j => (i = 0 && j < 2) || (i = 1 && j = 2)

example : diff 2 3 exEs exMt = [.matched 0 [0, 1], .matched 1 [2]] := by
  decide +kernel
example : hasDiff (diff 2 3 exEs exMt) = false := by
  decide +kernel

/-! ## through the composition: `scrut test` on one document (`Model/TestRun.lean`) -/

section Integrated
open Scrut.TestRun

/-- **C01, integrated**: if the compiled expectations accept a stream (`!diff.has_differences()`),
there is an assignment `a` of the lines of the stream to the expectations -- `Matched`: every line
is assigned (no gaps), in order, to an expectation whose RULE matches the line
(`e.rule.matches l = some true`), every non-optional expectation receives a line, every
non-multiline one at most one. -/
theorem C01_integrated_accepts_sound {exps : List CExp} {stream : Bytes}
    (h : accepts exps stream = some true) :
    ∃ a, Matched exps (Scrut.Newline.splitAtNewline stream) a :=
  accepts_sound h

/-- `Matched` spelled out -/
theorem C01_matched_spelled_out {exps : List CExp} {lines : List Bytes} {a : List Nat}
    (h : Matched exps lines a) :
    a.length = lines.length ∧ a.Pairwise (· ≤ ·) ∧
    (∀ (j i : Nat) (l : Bytes), a[j]? = some i → lines[j]? = some l →
      ∃ e : CExp, exps[i]? = some e ∧ e.rule.matches l = some true) ∧
    (∀ (i : Nat) (e : CExp), exps[i]? = some e → e.optional = false → i ∈ a) ∧
    (∀ (i : Nat) (e : CExp), exps[i]? = some e → e.multiline = false → a.count i ≤ 1) :=
  ⟨h.total, h.inOrder, h.isMatch, h.atLeast, h.atMost⟩

/-- **C01 + C05, integrated**: behind every `success` that `scrut test` reports for test `i` there
is such an assignment of the lines of the stream the test selects to the test's expectations (and
the expected exit code). -/
theorem C01_integrated_success_matched {tests : List Test} {runs : List Ran}
    {outcomes : List Scrut.Exec.Outcome} {status i : Nat}
    (h : runTests tests runs = .report outcomes status)
    (hi : (i, Scrut.Exec.Verdict.ok) ∈ outcomes) :
    ∃ (t : Test) (r : Ran) (s : Bytes) (a : List Nat), tests[i]? = some t ∧ runs[i]? = some r ∧
      r.code = t.expected.getD 0 ∧ selectedStream t r = some s ∧
      Matched t.exps (Scrut.Newline.splitAtNewline s) a := by
  obtain ⟨t, r, ht, hr, hc, ⟨s, hs, hacc⟩, _⟩ := runTests_ok_sound h hi
  obtain ⟨a, ha⟩ := accepts_sound hacc
  exact ⟨t, r, s, a, ht, hr, hc, hs, ha⟩

/-- **C01 + C05 from the bytes of the document** -/
theorem C01_document_success_matched {bytes : Bytes} {runs : List Ran}
    {outcomes : List Scrut.Exec.Outcome} {status i : Nat}
    (h : testDocumentBytes bytes runs = .report outcomes status)
    (hi : (i, Scrut.Exec.Verdict.ok) ∈ outcomes) :
    ∃ (tests : List Test) (t : Test) (r : Ran) (s : Bytes) (a : List Nat), DocTests bytes tests ∧
      tests[i]? = some t ∧ runs[i]? = some r ∧ r.code = t.expected.getD 0 ∧
      selectedStream t r = some s ∧ Matched t.exps (Scrut.Newline.splitAtNewline s) a := by
  obtain ⟨tests, hd, hr⟩ := (testDocumentBytes_report_iff ..).1 h
  obtain ⟨t, r, s, a, hm⟩ := C01_integrated_success_matched hr hi
  exact ⟨tests, t, r, s, a, hd, hm⟩

/-! Non-vacuity (kernel evaluation): a glob and an optional `equal` expectation accept `bb\n`; the
document `exBytes`, whose second test carries these expectations, is reported `success` twice. -/
example : accepts [⟨.glob ['b', '*'], false, false⟩, ⟨.equal [99], true, false⟩] [98, 98, 10] = some true :=
  ex_accepts
example : testDocumentBytes exBytes exRuns = .report [(0, .ok), (1, .ok)] 0 := ex_report

end Integrated

end Scrut.Props.C01
