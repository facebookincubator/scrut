import ScrutModel.Lemmas.ShellState
import ScrutModel.Lemmas.StateFile
/-!
# C12 — Shell state carries from one test case to the next as if run in one shell (PARTIAL)

Two layers.

1. `C12_refines_single_session` — for ANY shell semantics `run` and ANY carrier: if restoring what
   was persisted gives an observationally equivalent shell (`CarrierTransparent`, with respect to
   an equivalence `E` that `run` respects), then running each test case in its own process yields
   exactly the outputs of one session, for every history; detached test cases leave nothing behind.
   Whether bash + the 60-line template satisfy `CarrierTransparent` is a fact about bash 5.2 and is
   SAMPLED by the harness with real processes (all state classes), not proved.
2. The variable carrier as the template implements it (bindings recorded by `declare -p`,
   read-only and excluded names filtered, unsets not recorded, new processes start from scrut's own
   environment) is modelled concretely and compared with real bash on every run.
   `C12_vars_carried_partial` proves the refinement for histories that neither unset an inherited
   variable nor create read-only variables; the two excluded classes are genuine deviations of the
   code from the property, with witnesses below (known findings).
3. The ORDER of the state file (`Model/StateFile.lean`): bash parses a sourced file command by
   command under the options in force at that moment and stops at a syntax error. With the order
   written since fix e15e02e (recorded options, `shopt -s extglob`, functions, recorded `extglob`
   again, everything else) every state is restored, whatever `extglob` is when it is written
   (`C12_state_file_order`); with the former order a function that needs `extglob` followed by
   `shopt -u extglob` lost that function and everything behind it (`C12_old_order_fails_on_witness`,
   the defect found when seeded change C12-options-restored-after-functions was missed).
-/
namespace Scrut.Props.C12
open Scrut.Shell

/-- **C12** (abstract): per-process execution refines a single session whenever the carrier is
transparent up to an equivalence that the shell semantics respects. -/
theorem C12_refines_single_session {σ Snip Out File : Type}
    (run : Snip → σ → σ × Out) (restore : Option File → σ) (persist : σ → File)
    (E : σ → σ → Prop)
    (Etrans : ∀ a b c, E a b → E b c → E a c)
    (respects : ∀ c s t, E s t → (run c s).2 = (run c t).2 ∧ E (run c s).1 (run c t).1)
    (CarrierTransparent : ∀ s, E (restore (some (persist s))) s)
    (hs : List (Snip × Bool)) (f : Option File) (s : σ) (h0 : E (restore f) s) :
    perProcess run restore persist hs f = session run hs s :=
  perProcess_eq_session_of_inv run restore persist E (fun _ => True) (fun _ => True) Etrans respects
    (fun _ _ _ _ => trivial) (fun s _ => ⟨CarrierTransparent s, trivial⟩) hs (fun _ _ => trivial) f s trivial h0

/-- detached test cases leave no state behind -/
theorem C12_detached_leaves_nothing (excluded : Nat → Bool) (inherited : Vars) (probes : List Nat)
    (a : Action) (rest : List (Action × Bool)) (f : Option Vars) :
    runPerProcess excluded inherited probes ((a, true) :: rest) f =
      none :: runPerProcess excluded inherited probes rest f := by
  simp [runPerProcess]

/-- **C12** (variables, partial): for benign histories every test case observes exactly the
variables a single session would hold. FULL STRENGTH (all histories) is false today, see the two
witnesses. -/
theorem C12_vars_carried_partial (excluded : Nat → Bool) (inherited : Vars) (probes : List Nat)
    (hnodup : (inherited.map (·.name)).Nodup)
    (hro : ∀ v ∈ inherited, v.readonly = false)
    (hs : List (Action × Bool)) (hb : Benign excluded inherited hs) :
    runPerProcess excluded inherited probes hs none = runSession probes hs inherited := by
  rw [runPerProcess_eq, runSession_eq]
  exact perProcess_eq_session_of_inv _ _ _ Ext (Good excluded inherited) (BenignAct excluded inherited)
    (fun _ _ _ => Ext.trans) (fun a _ _ h => ⟨observe_ext (act_ext h a) probes, act_ext h a⟩)
    (fun a _ ha g => good_act g a ha)
    (fun _ g => ⟨restore_persist_ext g, good_restore_persist hnodup hro g⟩)
    hs hb.act none inherited (good_inherited excluded inherited hnodup hro) (Ext.refl _)

/-- witness 1: `unset` of an inherited variable is not carried (the state file records bindings
only; the next process inherits the variable again). Names: 0 = the inherited variable. -/
theorem C12_unset_inherited_fails_on_witness :
    runPerProcess (fun _ => false) [⟨0, [1], true, false⟩] [0] [(.unset 0, false), (.other, false)] none
      ≠ runSession [0] [(.unset 0, false), (.other, false)] [⟨0, [1], true, false⟩] := by
  decide +kernel

/-- witness 2: a read-only variable is filtered out of the state file and is gone in the next
test case. -/
theorem C12_readonly_fails_on_witness :
    runPerProcess (fun _ => false) [] [5] [(.readonly 5 [7], false), (.other, false)] none
      ≠ runSession [5] [(.readonly 5 [7], false), (.other, false)] [] := by
  decide +kernel

/-- **C12** (order of the state file): a new process that sources what was persisted holds the options, all
functions, aliases and variables exactly as they were -- also functions whose bodies can only be parsed while
`extglob` is set (whatever `extglob` is when the state is written), functions that share their name with an
alias, variables that were not exported while `allexport` is set, and `errtrace` next to `extdebug`. -/
theorem C12_state_file_order (s : Scrut.StateFile.St) :
    Scrut.StateFile.source Scrut.StateFile.fresh (Scrut.StateFile.persist s) = s := by
  obtain ⟨e, d, t, a, fs, as, vs⟩ := s
  simp only [StateFile.persist, StateFile.fresh, StateFile.optionLines, List.cons_append, List.nil_append,
    StateFile.source, List.append_assoc]
  rw [StateFile.source_funcs _ rfl rfl, StateFile.source_vars _ rfl, StateFile.source_aliases]
  simp [StateFile.source]

/-- the order before fix e15e02e (options, then functions): `g` needs `extglob`, `extglob` is off
again when the state is written, a variable stands for the rest of the state -- the next process
has neither `g` nor the variable -/
theorem C12_old_order_fails_on_witness :
    Scrut.StateFile.source Scrut.StateFile.fresh
        (Scrut.StateFile.persistOld { extglob := false, funcs := [⟨7, true⟩], vars := [⟨1, 2, false⟩] })
      = { extglob := false, funcs := [], vars := [] } ∧
    Scrut.StateFile.source Scrut.StateFile.fresh
        (Scrut.StateFile.persist { extglob := false, funcs := [⟨7, true⟩], vars := [⟨1, 2, false⟩] })
      = { extglob := false, funcs := [⟨7, true⟩], vars := [⟨1, 2, false⟩] } := by
  decide +kernel

/-- the order before fix 6fb091a (`set +o` in front of `shopt -p`): `set -E` with `extdebug` off -- restoring
`shopt -u extdebug` afterwards switches `errtrace` off again, the next process does not have it -/
theorem C12_set_first_order_fails_on_witness :
    Scrut.StateFile.source Scrut.StateFile.fresh
        (Scrut.StateFile.persistSetFirst { extglob := false, errtrace := true, funcs := [], vars := [⟨1, 2, false⟩] })
      = { extglob := false, errtrace := false, funcs := [], vars := [⟨1, 2, false⟩] } := by
  decide +kernel

/-- the order before fix bb09a36 (aliases in front of the functions): a function `f` and an alias `f` -- the
definition of the function is a syntax error, the next process has neither the function nor the variable
behind it -/
theorem C12_aliases_first_order_fails_on_witness :
    Scrut.StateFile.source Scrut.StateFile.fresh
        (Scrut.StateFile.persistAliasesFirst { extglob := false, funcs := [⟨7, false⟩], aliases := [7], vars := [⟨1, 2, false⟩] })
      = { extglob := true, funcs := [], aliases := [7], vars := [] } := by
  decide +kernel

/-- the order before fix 75c64cd (options in front of everything): `X=1; set -a` -- the variable that was not
exported comes back exported -/
theorem C12_options_first_order_fails_on_witness :
    Scrut.StateFile.source Scrut.StateFile.fresh
        (Scrut.StateFile.persistOptionsFirst { extglob := false, allexport := true, funcs := [], vars := [⟨1, 2, false⟩] })
      = { extglob := false, allexport := true, funcs := [], vars := [⟨1, 2, true⟩] } := by
  decide +kernel

/-- **C12** (the hook that writes the state file): whatever `errexit` and `noclobber` are in the shell of the
test case and whether or not an earlier test case left a state file, the complete state is written and the
test case ends with the exit status of its own command. -/
theorem C12_hook_survives_options (h : Scrut.StateFile.Hook) (s : Scrut.StateFile.St) (code : Nat) :
    Scrut.StateFile.writeState (Scrut.StateFile.hookCmds s) true h code = (some (Scrut.StateFile.persist s), code) := by
  simp [StateFile.writeState, StateFile.runCmds_ok h.errexit _ (StateFile.hookCmds_ok s), StateFile.hookCmds_out]

/-- the hook between fixes e15e02e and 296e2dd (`shopt -p extglob` unguarded) under `set -e` with `extglob` off: it
ends behind that command -- the variables are not written and the test case, whose command ended with 0, ends
with 1 -/
theorem C12_unguarded_hook_fails_on_witness :
    Scrut.StateFile.writeState
        (Scrut.StateFile.hookCmdsUnguarded { extglob := false, funcs := [], vars := [⟨1, 2, false⟩] }) true ⟨true, false, none⟩ 0
      = (some [.setExtdebug false, .setExtglob false, .setErrtrace false, .setAllexport false, .setExtglob true,
          .setExtglob false], 1) := by
  decide +kernel

/-- the redirection before fix 79ceed0 (`>` instead of `>|`) under `set -C` when an earlier test case left a
state file: the old file stays, nothing of this test case is carried -/
theorem C12_clobber_hook_fails_on_witness :
    Scrut.StateFile.writeState
        (Scrut.StateFile.hookCmds { extglob := false, funcs := [], vars := [⟨1, 2, false⟩] }) false
        ⟨false, true, some [.setVar ⟨1, 1, false⟩]⟩ 0
      = (some [.setVar ⟨1, 1, false⟩], 0) := by
  decide +kernel

/-! Non-vacuity of `Benign`: assign, export, modify, unset an own variable. -/
example : Benign (fun _ => false) [⟨0, [1], true, false⟩]
    [(.assign 1 [2], false), (.export 2 [3], false), (.assign 0 [9], false), (.unset 1, false), (.assign 3 [4], true)] := by
  intro p hp
  simp at hp
  rcases hp with rfl | rfl | rfl | rfl | rfl <;> simp [lookup]

end Scrut.Props.C12
