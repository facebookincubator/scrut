import ScrutModel.Lemmas.CramOrphan
import ScrutModel.Lemmas.Basic
/-!
# C07 — Cram documents: indented `$` blocks become the written tests, in order

Model: `Scrut.Cram.parseCram expOk n text` (`Model/Cram.lean`) = `CramParser::new(maker, n).parse(text)`
on top of the shared `LineParser` model with `allow_multiple_commands = true`; `expOk` (does a text
parse as an expectation?) is a parameter, so every theorem holds for every expectation grammar.

A document **by construction** is a `CramDoc`: a list of title lines, blank lines, unindented `#`
comment lines and tests (`$ ` line, `> ` continuation lines, then expectation / `[n]` lines, with
`#` comment lines allowed between them).  `render` writes it, `CramDoc.tests` reads off the tests
that are written in it — **with the title as the code computes it**: the last title line since the
previous command (`LineParser::flush` clears the title when a test is pushed, so the second `$`
line of one block has the title `""`; this is how Cram attaches a title to the next command only,
and `cram.rs`'s own test `test_real_life_multiline` expects it).

Where the real code deviates from the property text (kept visible below, reported by the harness
oracle under the class named there):

* `C07:title-not-nearest` — the property says "nearest preceding unindented title line"; the code
  gives `""` to every test after the first one below a title.

scrut's fix 67abd12 (harness classes `C07:orphan-exit-code-adopted` / `C07:orphan-expectation-adopted`):
indented lines that are not below a command are an error (`C07_orphan_lines_rejected`); without the fix
they stayed in the engine and became the exit code (even across blank lines) / the first expectations of
the **next** command (the two witnesses are regression theorems).
-/
namespace Scrut.Props.C07
open Scrut.LineParser Scrut.Cram

/-- **C07 (never crashes)**: parsing any text with any indentation either fails with one of the seven
`bail!`s of `line_parser.rs` or yields the Cram document configuration and a list of tests.
(`cram.rs`/`line_parser.rs` contain no index, slice, subtraction or `unwrap`; that the real parser
does not panic is checked on every generated document by the correspondence.) -/
theorem C07_no_crash (expOk : List Char → Bool) (n : Nat) (text : List Char) :
    (∃ e : Err, parseCram expOk n text = .error e) ∨
    (∃ ts, parseCram expOk n text = .ok (DocConfig.defaultCram, ts)) := by
  unfold parseCram
  cases parseCramTests expOk n text with
  | error e => exact Or.inl ⟨e, rfl⟩
  | ok ts => exact Or.inr ⟨ts, rfl⟩

/-- **C07 (documents by construction)**: for every indentation `n+1 ≥ 1` and every document `d` whose
atoms are well formed (`docOk`: no line breaks inside atoms; titles are non-empty, not indented, not
`#`; expectation texts parse, do not start with `$ `, are not of the form `[digits]` (a number
that does not fit an `i32` is the error `exitCodeOutOfRange`: scrut's fix "exit code out of range"), and the
first one below the command lines does not start with `> `; at most one exit-code line per test,
its digits fit an `i32`), parsing the rendered text yields exactly `d.tests`: one test per `$ `
line, in order; shell expression = the command text and the `> ` texts (joined with `\n` by
`TestCase.shellExpression`); expectations = the texts after the indentation, unchanged
(whitespace-only and empty ones included); exit code = value of the digits; 1-based line number
of the `$ ` line; title = last title line since the previous command or `""`; Cram defaults. -/
theorem C07_wellformed (expOk : List Char → Bool) (n : Nat) (d : CramDoc)
    (wf : docOk expOk (n + 1) d = true) :
    parseCram expOk (n + 1) (render (n + 1) d) = .ok (DocConfig.defaultCram, d.tests) :=
  parseCram_render expOk n d wf

/-- **C07 (one test per `$ ` line, in order)**, for *every* text that parses (no well-formedness):
the list of (line number, first command line) of the tests is exactly the list of (1-based line
number, text after `$ `) of the lines that start with the indentation followed by `$ ` and are not
`#` lines (`cmdLinesFrom`), in document order — no command is dropped, duplicated, merged or
reordered, consecutive `$ ` lines are separate tests. -/
theorem C07_one_test_per_command (expOk : List Char → Bool) (n : Nat) (text : List Char) (dc : DocConfig)
    (ts : List Test) (h : parseCram expOk n text = .ok (dc, ts)) :
    ts.map keyOf = cmdLinesFrom (indentOf n) 0 (lines text) :=
  parseLines_keys expOk _ _ ts (parseCram_ok h).2

/-- **C07 (comments and unindented text are inert)**, for *every* text: each command line of each
resulting test is the text after `$ ` / `> ` of a line that starts with the indentation and is
not a `#` line, and each expectation is the text after the indentation of such a line. Hence no
`#` line and (for `n ≥ 1`) no unindented line ever becomes a command or an expectation. -/
theorem C07_comments_inert (expOk : List Char → Bool) (n : Nat) (text : List Char) (dc : DocConfig)
    (ts : List Test) (h : parseCram expOk n text = .ok (dc, ts)) :
    ∀ t ∈ ts,
      (∀ l ∈ t.command, ∃ line ∈ lines text, isComment line = false ∧
        (stripPrefix (indentOf n) line = some ('$' :: ' ' :: l) ∨
         stripPrefix (indentOf n) line = some ('>' :: ' ' :: l))) ∧
      (∀ e ∈ t.expectations, ∃ line ∈ lines text, isComment line = false ∧
        stripPrefix (indentOf n) line = some e) := by
  intro t ht
  have g := parseLines_good expOk _ _ ts (parseCram_ok h).2 t ht
  refine ⟨fun l hl => ?_, g.2.2⟩
  rcases g.2.1 l hl with ⟨line, hm, hc, hs⟩ | ⟨line, hm, hc, hs⟩
  · exact ⟨line, hm, hc, Or.inl hs⟩
  · exact ⟨line, hm, hc, Or.inr hs⟩

/-- a `#` line changes nothing in the engine, whatever its state (it does not even end a test) -/
theorem C07_comment_line_skipped (expOk : List Char → Bool) (ind : List Char) (s : St) (i : Nat)
    (c : List Char) : step expOk ind s i ('#' :: c) = .ok s :=
  step_comment expOk s i c ind

/-- **C07 (defaults)**, for *every* text that parses: the document configuration is the Cram one
and every test carries `TestCaseConfig::default_cram()`. -/
theorem C07_defaults (expOk : List Char → Bool) (n : Nat) (text : List Char) (dc : DocConfig)
    (ts : List Test) (h : parseCram expOk n text = .ok (dc, ts)) :
    dc = DocConfig.defaultCram ∧ ∀ t ∈ ts, t.config = some TCConfig.defaultCram :=
  ⟨(parseCram_ok h).1, fun t ht => (parseLines_good expOk _ _ ts (parseCram_ok h).2 t ht).1⟩

/-- what the Cram defaults are: combined output, CRLF kept, skip code 80; total timeout 900 s -/
theorem C07_defaults_values :
    TCConfig.defaultCram.outputStream = some .combined ∧ TCConfig.defaultCram.keepCrlf = some true ∧
    TCConfig.defaultCram.skipDocumentCode = some 80 ∧ DocConfig.defaultCram.totalTimeoutSecs = some 900 :=
  ⟨rfl, rfl, rfl, rfl⟩

/-! ### Titles.  Full strength (the property's text), **false for the code**:
`∀ d, docOk … d → (d.tests).map title = nearestTitles none d`
(every test carries the nearest preceding title line). -/

/-- **partial**: when every test that has a title line somewhere before it is the first test after
a title line (`ownTitles`), the title the code computes is the nearest preceding title line. -/
theorem C07_title_nearest_partial (d : CramDoc) (h : ownTitles false false d = true) :
    d.tests.map (·.title) = nearestTitles none d :=
  titles_nearest d none none 0 false false (by simp) (by simp) h

/-- the document `T⏎  $ a⏎  $ b⏎` -/
def titleWitness : CramDoc := [.title ['T'], .test ⟨['a'], [], []⟩, .test ⟨['b'], [], []⟩]

/-- **witness** (`C07:title-not-nearest`): in `T⏎  $ a⏎  $ b⏎` the second test gets the title `""`,
the nearest preceding title line is `T`. -/
theorem C07_title_nearest_fails_on_witness :
    docOk (fun _ => true) 2 titleWitness = true ∧
    (parseCram (fun _ => true) 2 (render 2 titleWitness)).toOption.map (·.2.map (·.title)) = some [['T'], []] ∧
    nearestTitles none titleWitness = [['T'], ['T']] := by
  decide +kernel

/-! ### Indented lines that are not below a command are an error (full strength since fix 67abd12) -/

/-- **C07 (orphan lines are rejected)**, for *every* text: if some line is indented, not empty, not a
`#` line and not a command start (`isBodyLine`: an expectation, `[n]` or `> ` line), and no command
is open before it (`closedAfter`: the last non-`#` line before it is blank or unindented, or there
is none), the document does not parse — such a line can never change a later test. -/
theorem C07_orphan_lines_rejected (expOk : List Char → Bool) (n : Nat) (text : List Char)
    (pre post : List (List Char)) (line : List Char) (ht : lines text = pre ++ line :: post)
    (hp : closedAfter (indentOf n) pre = true) (hl : isBodyLine (indentOf n) line = true) :
    ∃ e : Err, parseCram expOk n text = .error e := by
  obtain ⟨e, he⟩ := parseLines_orphan expOk (indentOf n) pre post line hp hl
  exact ⟨e, by simp [parseCram, parseCramTests, ht, he]⟩

/-- **regression** (witness of `C07:orphan-exit-code-adopted`): `  [1]⏎⏎  $ a⏎` is an error at line 1;
without scrut's fix 67abd12 the test `a` of the other block got the exit code 1. -/
theorem C07_orphan_exit_code_regression :
    parseCram (fun _ => true) 2 "  [1]\n\n  $ a\n".toList = .error (.bodyWithoutCommand 1) := by
  rw [String.toList_ofList]; decide +kernel

/-- **regression** (witness of `C07:orphan-expectation-adopted`): `  ⏎  $ a⏎` is an error; without
the fix the whitespace-only line above the command became the expectation `""` of `a`. -/
theorem C07_orphan_expectation_regression :
    parseCram (fun _ => true) 2 "  \n  $ a\n".toList = .error (.bodyWithoutCommand 1) := by
  rw [String.toList_ofList]; decide +kernel

/-! ## a line `[digits]` is an exit code or an error, never an expectation -/

/-- **C07 (exit-code lines, one step)**: `add_testcase_body` on a body line of the form
`^\[[0-9]+\]$`, in every state and either parser mode: the errors in the order of the code ("no
shell expression", then "exit code .. is out of range" when the number exceeds `i32::MAX`, then
"provided multiple times"), else the number becomes the exit code of the test.  In no case is
anything appended to the expectations. -/
theorem C07_exit_code_line_step {κ : Type} (expOk : List Char → Bool) (s : State κ) (line : List Char)
    (i : Nat) (h : isExitCodeForm line = true) :
    s.addBody expOk line i =
      if s.command.isEmpty then .error (.bodyWithoutCommand (i + 1))
      else match extractExitCode line with
        | none => .error (.exitCodeOutOfRange (i + 1))
        | some c =>
          if s.exitCode.isSome then .error (.exitCodeTwice (i + 1))
          else .ok ({ s with inCommand := false, exitCode := some c }, .exitCode) :=
  addBody_exitForm expOk s line i h

/-- the successful case: the step is an exit code step, the number fits into an `i32`, the
expectations are unchanged -/
theorem C07_exit_code_line_step_ok {κ : Type} (expOk : List Char → Bool) {s s' : State κ}
    {line : List Char} {i : Nat} {ct : CodeType} (h : isExitCodeForm line = true)
    (he : s.addBody expOk line i = .ok (s', ct)) :
    ct = .exitCode ∧ s'.expectations = s.expectations ∧ s.exitCode = none ∧
      ∃ c, extractExitCode line = some c ∧ c ≤ i32Max ∧ s'.exitCode = some c :=
  addBody_exitForm_ok expOk h he

/-- **C07 (no exit-code line among the expectations)**, for *every* text that parses, every
indentation and every expectation grammar: no expectation of any test has the form
`^\[[0-9]+\]$`.  (Before the fix, `  $ a⏎  [2147483648]⏎` parsed to the test `a` with the
expectation `[2147483648]` and no exit code.) -/
theorem C07_exit_code_line_never_expectation (expOk : List Char → Bool) (n : Nat) (text : List Char)
    (dc : DocConfig) (ts : List Test) (h : parseCram expOk n text = .ok (dc, ts)) :
    ∀ t ∈ ts, ∀ e ∈ t.expectations, isExitCodeForm e = false :=
  parseLines_noExitForm expOk (indentOf n) (lines text) (parseCram_ok h).2

/-- **regression** (witness of `C07:exit-code-out-of-range-becomes-expectation`) -/
theorem C07_exit_code_out_of_range_regression :
    parseCram (fun _ => true) 2 "  $ a\n  [2147483648]\n".toList = .error (.exitCodeOutOfRange 2) ∧
    parseCram (fun _ => true) 2 "  $ a\n  o\n  [99999999999]\n".toList = .error (.exitCodeOutOfRange 3) := by
  rw [String.toList_ofList, String.toList_ofList]; decide +kernel

/-- the order of the errors: "no shell expression" first, "out of range" before "multiple times" -/
theorem C07_exit_code_out_of_range_order :
    parseCram (fun _ => true) 2 "  [2147483648]\n  $ a\n".toList = .error (.bodyWithoutCommand 1) ∧
    parseCram (fun _ => true) 2 "  $ a\n  [1]\n  [2147483648]\n".toList = .error (.exitCodeOutOfRange 3) ∧
    parseCram (fun _ => true) 2 "  $ a\n  [1]\n  [2147483647]\n".toList = .error (.exitCodeTwice 3) := by
  rw [String.toList_ofList, String.toList_ofList, String.toList_ofList]; decide +kernel

example : isExitCodeForm "[2147483648]".toList = true ∧ extractExitCode "[2147483648]".toList = none ∧
    exitCodeOverflows "[2147483648]".toList = true := by rw [String.toList_ofList]; decide +kernel
/-- the largest exit code, also with leading zeros -/
example : (parseCram (fun _ => true) 2 "  $ a\n  [2147483647]\n".toList).map (·.2.map (·.exitCode)) =
    .ok [some 2147483647] := by rw [String.toList_ofList]; decide +kernel
example : extractExitCode "[0002147483647]".toList = some 2147483647 ∧
    exitCodeOverflows "[0002147483647]".toList = false := by rw [String.toList_ofList]; decide +kernel
/-- not of the form: these lines are expectations -/
example : isExitCodeForm "[2147483648] (equal)".toList = false ∧ isExitCodeForm "[-1]".toList = false ∧
    isExitCodeForm "[]".toList = false ∧ isExitCodeForm " [1]".toList = false := by
  rw [String.toList_ofList, String.toList_ofList, String.toList_ofList, String.toList_ofList]; decide +kernel

/-! Non-vacuity -/

/-- a document using every construct -/
def sample : CramDoc :=
  [.comment [' ', 'c'], .title ['T'], .blank,
   .test ⟨['a'], [.cont ['b'], .comment ['x']], [.exp ['o', ' '], .comment [], .exp [], .exit ['0', '7'], .exp ['>', ' ', 'y']]⟩,
   .test ⟨['c'], [], [.exp [' ']]⟩, .title [' ', '$', ' ', 'x'], .comment [], .test ⟨['d'], [], []⟩]

example : docOk (fun _ => true) 2 sample = true := by decide +kernel
example : ownTitles false false [.title ['T'], .test ⟨['a'], [], []⟩, .blank, .title ['U'], .test ⟨['b'], [], []⟩] = true := by
  decide +kernel
example : sample.tests.map (fun t => (t.title, t.shellExpression, t.expectations, t.exitCode, t.lineNumber)) =
    [(['T'], ['a', '\n', 'b'], [['o', ' '], [], ['>', ' ', 'y']], some 7, 4),
     ([], ['c'], [[' ']], none, 12),
     ([' ', '$', ' ', 'x'], ['d'], [], none, 16)] := by
  decide +kernel

example : cmdLinesFrom (indentOf 2) 0 (lines (render 2 sample)) =
    [(4, some ['a']), (12, some ['c']), (16, some ['d'])] := by decide +kernel

example : closedAfter (indentOf 2) [['T'], [' ', ' ', '$', ' ', 'a'], [], ['#']] = true ∧
    isBodyLine (indentOf 2) [' ', ' ', '[', '1', ']'] = true ∧ isBodyLine (indentOf 2) [' ', ' '] = true := by decide +kernel

end Scrut.Props.C07
