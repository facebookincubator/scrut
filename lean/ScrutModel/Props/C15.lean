import ScrutModel.Lemmas.Exec
import ScrutModel.Lemmas.TestRunProps
import ScrutModel.Lemmas.TestRunScript
/-!
# C15 — The skip exit code skips the whole document, and nothing else does

The second half states the property about the INTEGRATED model of `scrut test` (`Model/TestRun.lean`, tied to the binary by `e2e-testdoc`,
`e2e-testcram`, `e2e-testdoc-cram-compat`).  The runs of the integrated model are COMPLETED commands
(exit code, stdout, stderr): no timeouts exist in this fragment, so the only source of a `skipped`
verdict is the skip code (`C15_integrated_nothing_else_skips`).
-/
namespace Scrut.Props.C15
open Scrut.Exec

/-- **C15**: execution ends as "skipped at `i`" only because test case `i` exited with its own
skip code (default 80) or the runner reported it skipped. -/
theorem C15_skip_cause (total : Option Nat) (runner : Runner) (tcs : List TC) (i : Nat)
    (h : (execAll total runner tcs).1 = .skipped i) :
    ∃ tc lim, tcs[i]? = some tc ∧
      (((runner i lim).1).status = .code (skipCodeOf tc) ∨ ((runner i lim).1).status = .skipped) := by
  obtain ⟨news, hrun⟩ := execAll_skipped h
  obtain ⟨d, hi, tc, lim, htc, hst⟩ := hrun.skipped_spec rfl
  rw [Nat.zero_add] at hi
  subst hi
  exact ⟨tc, lim, htc, hst⟩

/-- **C15**: a skipped document reports every test case as skipped, none failed or passed, and
does not make the run fail. -/
theorem C15_skip_all (tcs : List TC) (i : Nat) :
    runDocument tcs (.skipped i) = (List.range tcs.length).map (fun j => (j, Verdict.skipped)) ∧
    (∀ o ∈ runDocument tcs (.skipped i), isFailure o.2 = false) := by
  refine ⟨rfl, ?_⟩
  rintro ⟨j, v⟩ ho
  rw [(mem_skippedAll.1 ho).2]
  rfl

/-- other documents are unaffected: the exit status with a skipped document in the run is the
exit status without it -/
theorem C15_others_unaffected (pre post : List (Option (List Outcome))) (tcs : List TC) (i : Nat) :
    exitStatus (pre ++ [some (runDocument tcs (.skipped i))] ++ post) = exitStatus (pre ++ post) :=
  exitStatus_neutral pre post _ (any_isFailure_skippedAll tcs.length)

/-- **C15** (nothing else skips): when no test case exits with its skip code — the execution ends
regularly — no test case is reported as skipped. -/
theorem C15_no_spurious_skip (total : Option Nat) (runner : Runner) (tcs : List TC)
    (outs : List Out) (h : (execAll total runner tcs).1 = .ok outs) :
    ∀ o ∈ runDocument tcs (.ok outs), o.2 ≠ .skipped := by
  rintro ⟨j, v⟩ ho (rfl : v = .skipped)
  obtain ⟨tc, o, _, h2, _, h4⟩ := (mem_judge_zero tcs outs j .skipped).1 ho
  exact ((execAll_ok h).pushed j o h2).1 ((validate_skipped_iff tc o).1 h4.symm)

/-- … except those following a timed-out one: after a timeout exactly the later test cases are
skipped -/
theorem C15_skipped_after_timeout (total : Option Nat) (runner : Runner) (tcs : List TC)
    (g : Bool) (i : Nat) (outs : List Out)
    (h : (execAll total runner tcs).1 = .timeout g i outs) :
    ∀ j, (j, Verdict.skipped) ∈ runDocument tcs (.timeout g i outs) ↔ (i < j ∧ j < tcs.length) :=
  skipped_after_timeout total runner tcs g i outs h

/-- **C15** (Cram, one script): a test case that ended with the shared skip code skips the
document even if a later command left the shell (so that fewer results than test cases exist). -/
theorem C15_script_skip_wins (tcs : List TC) (c : Int) (outs : List Out)
    (hc : c ≠ scriptSkip tcs) (h : ∃ o ∈ outs, o.status = .code (scriptSkip tcs)) :
    ∃ i, execScript tcs (.code c) outs = some (.skipped i) ∧
      ∃ o, outs[i]? = some o ∧ o.status = .code (scriptSkip tcs) := by
  obtain ⟨i, hi⟩ := skipAt_isSome h
  exact ⟨i, execScript_skipAt (fun e => hc (Status.code.inj e)) hi, skipAt_eq_some hi⟩

/-- **C15** (Cram, since fix 03b50b5): the same when the script ran into the time limit after the
test case with the skip code had ended -- the document is skipped, not failed; without such an
output the timeout is reported. -/
theorem C15_script_skip_wins_timeout (tcs : List TC) (outs : List Out)
    (h : ∃ o ∈ outs, o.status = .code (scriptSkip tcs)) :
    ∃ i, execScript tcs .timeout outs = some (.skipped i) ∧
      ∃ o, outs[i]? = some o ∧ o.status = .code (scriptSkip tcs) := by
  obtain ⟨i, hi⟩ := skipAt_isSome h
  exact ⟨i, execScript_skipAt nofun hi, skipAt_eq_some hi⟩

/-- **C15** (Cram, since fix 384369f): … and when the shell was killed after that test case -/
theorem C15_script_skip_wins_killed (tcs : List TC) (outs : List Out)
    (h : ∃ o ∈ outs, o.status = .code (scriptSkip tcs)) :
    ∃ i, execScript tcs .unknown outs = some (.skipped i) ∧
      ∃ o, outs[i]? = some o ∧ o.status = .code (scriptSkip tcs) := by
  obtain ⟨i, hi⟩ := skipAt_isSome h
  exact ⟨i, execScript_skipAt nofun hi, skipAt_eq_some hi⟩

/-- **C15** (Cram): … and a script that ran into the time limit without a skip code among the parsed
outputs is reported as a timeout of the document -/
theorem C15_script_timeout_without_skip (tcs : List TC) (outs : List Out)
    (h : ∀ o ∈ outs, o.status ≠ .code (scriptSkip tcs)) :
    execScript tcs .timeout outs = some (.timeout true 0 [⟨.timeout, false, false⟩]) := by
  rw [execScript_eq, if_neg nofun, skipAt_eq_none.2 h]

/-- **C15** (Cram): nothing else skips — a skipped result means the script itself or the parsed
output at that index ended with the skip code. -/
theorem C15_script_skip_cause (tcs : List TC) (script : Status) (outs : List Out) (i : Nat)
    (h : execScript tcs script outs = some (.skipped i)) :
    (script = .code (scriptSkip tcs) ∧ i = 0) ∨
    ∃ o, outs[i]? = some o ∧ o.status = .code (scriptSkip tcs) :=
  execScript_skipped_cause tcs script outs i h

/-! Non-vacuity: custom skip code 7 on the second of three test cases. -/
example :
    (execAll none (fun i _ => (⟨.code (if i = 1 then 7 else 0), true, true⟩, 0))
      [⟨none, .stdout, none, none, true, 0⟩, ⟨none, .stdout, some 7, none, true, 0⟩, ⟨none, .stdout, none, none, true, 0⟩]).1
      = .skipped 1 := by decide +kernel

/-! ## through the composition: `scrut test` on one document (`Model/TestRun.lean`) -/

section Integrated
open Scrut.TestRun

/-- `skips tests runs` says that the command of some test of the document ended with
THAT test's skip code (`skip_document_code`, 80 unless configured) -/
theorem C15_skips_iff (tests : List Test) (runs : List Ran) :
    skips tests runs = true ↔
      ∃ (i : Nat) (t : Test) (r : Ran), tests[i]? = some t ∧ runs[i]? = some r ∧
        r.code = t.cfg.skipCode.getD 80 := by
  rw [skips_iff]
  simp only [hitsSkip_iff]

/-- **C15, integrated** (the skip code skips the whole document): if the command of some test ended
with that test's skip code, every test of the document is reported `skipped` -- also those that ran
before it -- and the exit status is 0. -/
theorem C15_integrated_skip_all {tests : List Test} {runs : List Ran} {outcomes : List Outcome}
    {status : Nat} (h : runTests tests runs = .report outcomes status)
    (hs : skips tests runs = true) :
    outcomes = (List.range tests.length).map (fun i => (i, Verdict.skipped)) ∧ status = 0 :=
  (runTests_skip h).1 hs

/-- **C15, integrated** (nothing else skips): test `i` is reported `skipped` only if some test of
the document ended with its skip code; every other verdict is `success`, wrong output or wrong exit
code -- a completed command is never reported as timed out or as an internal error. -/
theorem C15_integrated_nothing_else_skips {tests : List Test} {runs : List Ran}
    {outcomes : List Outcome} {status : Nat} (h : runTests tests runs = .report outcomes status) :
    (∀ i, (i, Verdict.skipped) ∈ outcomes ↔ (i < tests.length ∧ skips tests runs = true)) ∧
    (∀ o ∈ outcomes, o.2 = .ok ∨ o.2 = .malformed ∨ o.2 = .skipped ∨ ∃ c e, o.2 = .invalidExit c e) :=
  (runTests_skip h).2

/-- **C15 from the bytes of the document**: both directions for the prepared tests of the document -/
theorem C15_document_skip {bytes : Bytes} {runs : List Ran} {outcomes : List Outcome}
    {status : Nat} (h : testDocumentBytes bytes runs = .report outcomes status) :
    ∃ tests, DocTests bytes tests ∧
      (skips tests runs = true →
        outcomes = (List.range tests.length).map (fun i => (i, Verdict.skipped)) ∧ status = 0) ∧
      (∀ i, (i, Verdict.skipped) ∈ outcomes ↔ (i < tests.length ∧ skips tests runs = true)) ∧
      (∀ o ∈ outcomes, o.2 = .ok ∨ o.2 = .malformed ∨ o.2 = .skipped ∨ ∃ c e, o.2 = .invalidExit c e) := by
  obtain ⟨tests, hd, hr⟩ := (testDocumentBytes_report_iff ..).1 h
  exact ⟨tests, hd, runTests_skip hr⟩

/-- **C15, single-script executor** (Cram documents, `--cram-compat`), all or none: one `skipped`
verdict means that every test of the document is reported `skipped`, and the exit status is 0. -/
theorem C15_script_all_or_none {tests : List Test} {runs : List SRan} {outcomes : List Outcome}
    {status : Nat} (h : runScript tests runs = .report outcomes status)
    (hs : ∃ o ∈ outcomes, o.2 = Verdict.skipped) :
    outcomes = (List.range tests.length).map (fun i => (i, Verdict.skipped)) ∧ status = 0 := by
  obtain ⟨_, hst, hcases⟩ := runScript_report h
  rcases hcases with rfl | ⟨_, hv⟩
  · exact ⟨rfl, by rw [hst]; exact exitStatus_skippedAll _⟩
  · obtain ⟨o, ho, hsk⟩ := hs
    rcases hv o ho with h1 | h1 | ⟨c, e, h1⟩ <;> rw [h1] at hsk <;> cases hsk

/-- `scriptSkipCode tests` is the skip code of the ONE script -- the compiled
`skip_document_code` (80 when no test case sets one); every test case that sets a skip code sets it -/
theorem C15_script_skip_code {tests : List Test} {cfg : Compiled}
    (h : compileTestcase tests = some cfg) :
    scriptSkipCode tests = cfg.skipCode.getD 80 ∧
    ∀ t ∈ tests, t.cfg.skipCode = none ∨ t.cfg.skipCode = cfg.skipCode :=
  ⟨by unfold scriptSkipCode; rw [h], compiled_key (·.cfg.skipCode) (compileTestcase_inv h).2.2.1⟩

/-- `scriptSkips tests runs` says that the command of some test, in front of which no
command left the shell (`exit N`), ended with the skip code -- it is then on that test's divider
line or, if the command itself leaves the shell, it is the script's own exit status --, OR that the
skip code is 0 and no command left the shell (the script's own exit status is that of its last
`echo`, 0). -/
theorem C15_script_skips_iff (tests : List Test) (runs : List SRan) :
    scriptSkips tests runs = true ↔
      (∃ (i : Nat) (r : SRan), i < tests.length ∧ runs[i]? = some r ∧ r.ran.code = scriptSkipCode tests ∧
        ∀ (j : Nat) (x : SRan), j < i → runs[j]? = some x → x.leaves = false) ∨
      ((∀ x ∈ runs.take tests.length, x.leaves = false) ∧ scriptSkipCode tests = 0) :=
  scriptSkips_iff tests runs

/-! The statements about the single-script executor "in terms of the runs" below carry the hypothesis
`ScriptStripInert tests runs` (no test case sets `strip_ansi_escaping: true`, or no command wrote an `ESC` byte): with the key set (it is carried
into the compiled configuration since the fix `set_consistent!(strip_ansi_escaping)`),
`strip_ansi_sequences_bytes` runs over the whole captured stream, and a sequence a command leaves
open can take a divider line -- and the exit code it carries -- with it. -/

/-- **C15, single-script executor** (the skip code skips the whole document): if `scriptSkips`,
every test of the document is reported `skipped` -- also those that ran before -- and the exit
status is 0. -/
theorem C15_script_skip_all {tests : List Test} {runs : List SRan} {outcomes : List Outcome}
    {status : Nat} (hstrip : ScriptStripInert tests runs)
    (h : runScript tests runs = .report outcomes status)
    (hs : scriptSkips tests runs = true) :
    outcomes = (List.range tests.length).map (fun i => (i, Verdict.skipped)) ∧ status = 0 :=
  (runScript_skip hstrip h).1 hs

/-- **C15, single-script executor** (nothing else skips): test `i` is reported `skipped` only if
`scriptSkips`; every other verdict is `success`, wrong output or wrong exit code (completed
commands: there are no timeouts in this fragment). -/
theorem C15_script_nothing_else_skips {tests : List Test} {runs : List SRan}
    {outcomes : List Outcome} {status : Nat} (hstrip : ScriptStripInert tests runs)
    (h : runScript tests runs = .report outcomes status) :
    (∀ i, (i, Verdict.skipped) ∈ outcomes ↔ (i < tests.length ∧ scriptSkips tests runs = true)) ∧
    (∀ o ∈ outcomes, o.2 = .ok ∨ o.2 = .malformed ∨ o.2 = .skipped ∨ ∃ c e, o.2 = .invalidExit c e) :=
  (runScript_skip hstrip h).2

/- The statement "a `skipped` verdict means that the command of SOME TEST ended with the skip code",

    theorem C15_script_skipped_cause (h : runScript tests runs = .report outcomes status)
        (hi : (i, Verdict.skipped) ∈ outcomes) :
        ∃ j r, j < tests.length ∧ runs[j]? = some r ∧ r.ran.code = scriptSkipCode tests ∧
          ∀ k x, k < j → runs[k]? = some x → x.leaves = false

is FALSE for the single-script executor when the skip code is 0: the script's own exit status is
compared with the skip code first, and a script that runs to its end ends with the status of its last
`echo`, 0 (`C15_script_skipped_cause_fails_on_witness`).  It holds for every other skip code. -/

/-- … under the guard "the skip code is not 0" -/
theorem C15_script_skipped_cause_partial {tests : List Test} {runs : List SRan}
    {outcomes : List Outcome} {status i : Nat} (hstrip : ScriptStripInert tests runs)
    (h : runScript tests runs = .report outcomes status)
    (h0 : scriptSkipCode tests ≠ 0) (hi : (i, Verdict.skipped) ∈ outcomes) :
    ∃ (j : Nat) (r : SRan), j < tests.length ∧ runs[j]? = some r ∧ r.ran.code = scriptSkipCode tests ∧
      ∀ (k : Nat) (x : SRan), k < j → runs[k]? = some x → x.leaves = false := by
  have hs := ((runScript_skip hstrip h).2.1 i).1 hi
  rcases (scriptSkips_iff tests runs).1 hs.2 with hc | ⟨_, hz⟩
  · exact hc
  · exact absurd hz h0

/-- the witness: one test with `skip_document_code: 0` that expects the exit code 1; its command ends
with 1 and does not leave the shell; the document is reported `skipped` -/
theorem C15_script_skipped_cause_fails_on_witness :
    testDocumentCompatBytes exSkip0Bytes exSkip0Runs = .report [(0, .skipped)] 0 ∧
    CompatDocTests exSkip0Bytes exSkip0Tests ∧
    runScript exSkip0Tests exSkip0Runs = .report [(0, .skipped)] 0 ∧ scriptSkipCode exSkip0Tests = 0 ∧
    ∀ r ∈ exSkip0Runs, r.ran.code ≠ scriptSkipCode exSkip0Tests :=
  ⟨ex_skip0_report, ex_skip0_docTests, ex_skip0_runScript⟩

/-- **C15 from the bytes of a Cram document**: both directions for its prepared tests -/
theorem C15_cram_document_skip {bytes : Bytes} {runs : List SRan} {outcomes : List Outcome}
    {status : Nat} (hstrip : ∀ tests, CramDocTests bytes tests → ScriptStripInert tests runs)
    (h : testCramDocumentBytes bytes runs = .report outcomes status) :
    ∃ tests, CramDocTests bytes tests ∧
      (scriptSkips tests runs = true →
        outcomes = (List.range tests.length).map (fun i => (i, Verdict.skipped)) ∧ status = 0) ∧
      (∀ i, (i, Verdict.skipped) ∈ outcomes ↔ (i < tests.length ∧ scriptSkips tests runs = true)) ∧
      (∀ o ∈ outcomes, o.2 = .ok ∨ o.2 = .malformed ∨ o.2 = .skipped ∨ ∃ c e, o.2 = .invalidExit c e) := by
  obtain ⟨tests, hd, hr⟩ := (testCramDocumentBytes_report_iff ..).1 h
  exact ⟨tests, hd, runScript_skip (hstrip tests hd) hr⟩

/-- **C15 from the bytes of a Markdown document read under `--cram-compat`** -/
theorem C15_compat_document_skip {bytes : Bytes} {runs : List SRan} {outcomes : List Outcome}
    {status : Nat} (hstrip : ∀ tests, CompatDocTests bytes tests → ScriptStripInert tests runs)
    (h : testDocumentCompatBytes bytes runs = .report outcomes status) :
    ∃ tests, CompatDocTests bytes tests ∧
      (scriptSkips tests runs = true →
        outcomes = (List.range tests.length).map (fun i => (i, Verdict.skipped)) ∧ status = 0) ∧
      (∀ i, (i, Verdict.skipped) ∈ outcomes ↔ (i < tests.length ∧ scriptSkips tests runs = true)) ∧
      (∀ o ∈ outcomes, o.2 = .ok ∨ o.2 = .malformed ∨ o.2 = .skipped ∨ ∃ c e, o.2 = .invalidExit c e) := by
  obtain ⟨tests, hd, hr⟩ := (testDocumentCompatBytes_report_iff ..).1 h
  exact ⟨tests, hd, runScript_skip (hstrip tests hd) hr⟩

/-! Non-vacuity, evaluated by the kernel from the bytes of a document with two test cases: the
second command ends with 80; without a skip code nothing is skipped; a Cram document. -/
example : testDocumentBytes exBytes exRunsSkip = .report [(0, .skipped), (1, .skipped)] 0 := ex_report_skip
example : skips exTests exRunsSkip = true := by decide +kernel
example : testDocumentBytes exBytes exRunsBad = .report [(0, .ok), (1, .malformed)] 50 := ex_report_bad
example : skips exTests exRunsBad = false := by decide +kernel
example : testCramDocumentBytes exCramBytes exCramRunsSkip = .report [(0, .skipped), (1, .skipped)] 0 :=
  ex_cram_skip
/-- the Cram document: skip code 80; the second command ends with 80; the first command leaves the
shell with 80 (`exit 80`); no skip code -/
example : testCramDocumentBytes exCramBytes exCramRunsLeaveSkip = .report [(0, .skipped), (1, .skipped)] 0 :=
  ex_cram_leave_skip
example : scriptSkipCode exCramTests = 80 ∧ scriptSkips exCramTests exCramRunsSkip = true ∧
    scriptSkips exCramTests exCramRunsLeaveSkip = true ∧ scriptSkips exCramTests exCramRuns = false :=
  ex_cram_scriptSkips
example : CramDocTests exCramBytes exCramTests := ex_cramDocTests

end Integrated

end Scrut.Props.C15
