import ScrutModel.Lemmas.Pretty
/-!
# C19 — Every renderer handles every outcome and shows every difference

Model: `Scrut.Pretty` (Model/Pretty.lean) — the decision logic of `render_malformed_output`
(`prettyItems`), the same with every panicking operation explicit (`prettyRender`: `line_base`,
the `+ max_surrounding_lines` additions, `lines[0]`, the `Decorator` padding `width - digits`;
`none` = panic), `UnifiedDiff::render` (`unifiedEntries`), `higlight_tailing_spaces`
(`highlight`, string slices as `splitAtByte`), and the outer loops (`prettySections`,
`diffSections`). JSON/YAML well-formedness rests on serde (trusted, checked by parsing the real
output in the harness); ANSI styling and text escaping are not modelled.

Full-strength statement of "never panics": `∀ c d, (prettyRender c d).isSome`. It is FALSE for
hand-built diffs (see `C19_panics_outside_domain`): the library functions take any `Diff`. It holds
on `Dom` (indices inside the test case, line numbers below `count_output_lines`, matched entries
of single-line expectations non-empty, `max_surrounding_lines + len < 2^64`), and every diff the
matcher can produce is in `Dom` (`C19_no_panic`, via C02's `WF`).
-/
namespace Scrut.Props.C19
open Scrut.Pretty Scrut.Diff

/-- **C19** (pretty, all shown): for every diff and every `max_surrounding_lines`, every unmatched
expectation and every line of every unexpected block is among the items the pretty renderer emits. -/
theorem C19_all_shown_pretty (msl : Nat) (d : List DL) :
    (∀ i, DL.unmatched i ∈ d → Item.unm i ∈ prettyItems msl d) ∧
    (∀ ls l, DL.unexpected ls ∈ d → l ∈ ls → Item.unx l ∈ prettyItems msl d) :=
  itemsGo_shows msl d 0 none

/-- **C19** (pretty, all shown in the output): whenever the checked rendering succeeds, the `-` line of
every unmatched expectation and the `+` line of every unexpected output line, with their displayed
numbers, are in the output. -/
theorem C19_all_shown_rendered (c : Cfg) (d : List DL) (w : Nat) (lines : List Line)
    (h : prettyRender c d = some (w, lines)) :
    ∃ base, lineBase c = some base ∧
      (∀ i, DL.unmatched i ∈ d → Line.unm (base + i + 1) (c.ml i) ∈ lines) ∧
      (∀ ls l, DL.unexpected ls ∈ d → l ∈ ls → Line.unx (base + l + 1) ∈ lines) :=
  rendered_shows c d w lines h

/-- nothing is invented: every emitted item is an entry of the diff (or the `...` marker) -/
theorem C19_only_differences_pretty (msl : Nat) (d : List DL) :
    ∀ x ∈ prettyItems msl d, Item.From d x :=
  itemsGo_sound msl d 0 none

/-- **C19** (diff renderer, all shown): every unmatched expectation is a `-` line and every
unexpected output line a `+` line of the unified diff. -/
theorem C19_all_shown_unified (ln : Nat) (d : List DL) :
    (∀ i, DL.unmatched i ∈ d → UE.minus i ∈ unifiedEntries ln d) ∧
    (∀ ls l, DL.unexpected ls ∈ d → l ∈ ls → UE.plus l ∈ unifiedEntries ln d) := by
  have := unifiedGo_lines ln d 0 {} ⟨fun _ => rfl, fun _ => rfl⟩
  exact ⟨fun i h => of_mem_minusOf (this.1 ▸ List.mem_filterMap.2 ⟨_, h, rfl⟩),
    fun ls l h hl => of_mem_plusOf (this.2 ▸ List.mem_flatMap.2 ⟨_, h, hl⟩)⟩

/-- **C19** (no panic, explicit domain): none of the checked operations of the pretty renderer
fails on `Dom`. -/
theorem C19_no_panic_dom (c : Cfg) (d : List DL) (h : Dom c d) : (prettyRender c d).isSome :=
  prettyRender_isSome c d h

/-- **C19** (no panic): for every diff satisfying C02's well-formedness — so for every diff the
matcher can produce — with the test case's own expectations, any line numbering mode and any
`max_surrounding_lines` that does not overflow usize. -/
theorem C19_no_panic (n m : Nat) (es : Nat → Exp) (mt : Nat → Nat → Bool) (d : List DL)
    (wf : WF n m es mt d) (msl : Nat) (abs : Bool) (lineNumber shellLines : Nat)
    (hs : 1 ≤ shellLines) (hm : msl + d.length < USIZE) :
    (prettyRender { msl, abs, lineNumber, shellLines, nexp := n, ml := fun i => (es i).multiline } d).isSome :=
  prettyRender_isSome _ d (dom_of_WF n m es mt d wf msl abs lineNumber shellLines (fun _ => Nat.le_add_left_of_le hs) hm)

/-- the hypothesis of `C19_no_panic` is met by the matcher's result (C02) -/
theorem C19_no_panic_matcher (n m : Nat) (es : Nat → Exp) (mt : Nat → Nat → Bool)
    (msl : Nat) (abs : Bool) (lineNumber shellLines : Nat)
    (hs : 1 ≤ shellLines) (hm : msl + (diff n m es mt).length < USIZE) :
    (prettyRender { msl, abs, lineNumber, shellLines, nexp := n, ml := fun i => (es i).multiline }
      (diff n m es mt)).isSome :=
  C19_no_panic n m es mt _ (diff_wf n m es mt) msl abs lineNumber shellLines hs hm

/-- the domain is necessary: hand-built diffs outside it make the real arithmetic fail
(an index beyond the test case's expectations: `width - digits` underflows; a matched entry of a
single-line expectation without lines: `lines[0]`; `max_surrounding_lines` near `usize::MAX`). -/
theorem C19_panics_outside_domain :
    prettyRender { msl := 0, abs := false, lineNumber := 1, shellLines := 1, nexp := 1, ml := fun _ => false }
      [DL.unmatched 9] = none ∧
    prettyRender { msl := 0, abs := false, lineNumber := 1, shellLines := 1, nexp := 1, ml := fun _ => false }
      [DL.matched 0 []] = none ∧
    prettyRender { msl := USIZE - 1, abs := false, lineNumber := 1, shellLines := 1, nexp := 2, ml := fun _ => false }
      [DL.unmatched 0, DL.unexpected [0], DL.matched 1 [1]] = none := by
  decide +kernel

/-- **C19** (no section for a pass): an outcome that gets a section in the pretty rendering is
neither passed nor skipped; one that gets a section in the diff rendering failed on output, exit
code or internally. -/
theorem C19_no_section_for_pass (os : List OC) :
    (∀ p ∈ prettySections os, ∃ o ∈ os, o.pos = p ∧ o.kind ≠ .ok ∧ o.kind ≠ .skipped) ∧
    (∀ l, diffSections os = some l → ∀ p ∈ l,
      ∃ o ∈ os, o.pos = p ∧ (o.kind = .malformed ∨ o.kind = .exitcode ∨ o.kind = .internal)) :=
  ⟨fun _ => mem_prettySections.1, diffSections_not_pass os⟩

/-- every failed outcome gets its section in the pretty rendering -/
theorem C19_failed_has_section (os : List OC) (o : OC) (ho : o ∈ os)
    (h1 : o.kind ≠ .ok) (h2 : o.kind ≠ .skipped) : o.pos ∈ prettySections os :=
  mem_prettySections.2 ⟨o, ho, rfl, h1, h2⟩

/-- **C19** (space index): `space_start_index` is a character boundary of every string: the two
slices of `higlight_tailing_spaces` succeed and are the text without / the trailing white space. -/
theorem C19_space_index (cs : List Char) :
    splitAtByte cs (spaceStartIndex cs) = some (trimEndWs cs, trailingWs cs) ∧
    highlight cs = some (trimEndWs cs ++ (trailingWs cs).map renderSpace) :=
  ⟨split_at_spaceStart cs, highlight_eq cs⟩

/-- the defect repaired by fix 6e80f5e (character count used as byte offset) is a slice inside
U+3000 in the model of the old code -/
theorem C19_old_space_index_failed_on_witness :
    highlightOld ['f', 'o', 'o', '　'] = none ∧ highlight ['f', 'o', 'o', '　'] = some ['f', 'o', 'o', '⍰'] := by
  decide +kernel

/-- `Dom` is satisfiable with all three entry kinds, absolute numbers and surrounding lines -/
example : Dom { msl := 1, abs := true, lineNumber := 98, shellLines := 2, nexp := 3, ml := fun i => i == 1 }
    [.unexpected [0], .matched 0 [1], .matched 1 [2, 3], .unmatched 2] := by
  decide +kernel

/-- the surrounding-lines logic on a concrete diff: one line of context each side, then `...` -/
example : prettyItems 1 [.matched 0 [0], .matched 1 [1], .unmatched 2, .matched 3 [2], .matched 4 [3], .matched 5 [4]] =
    [.ctx 1 [1], .unm 2, .ctx 3 [2], .ell] := by
  decide +kernel

example : unifiedEntries 10 [.unexpected [0], .matched 0 [1], .unmatched 1, .unexpected [2, 3]] =
    [.hdr 10 0 10 1, .plus 0, .hdr 11 1 11 2, .minus 1, .plus 2, .plus 3] := by
  decide +kernel

end Scrut.Props.C19
