import ScrutModel.Lemmas.Glob
import ScrutModel.Lemmas.RegexWrap
import ScrutModel.Lemmas.WildLoop
import ScrutModel.Lemmas.GlobCramEq
import ScrutModel.Lemmas.RegexCleanup
import ScrutModel.Lemmas.RegexQuantifier
import ScrutModel.Lemmas.RulesStr
import ScrutModel.Lemmas.EscapedGrammar
/-!
# C04 — Each expectation kind matches exactly the lines the documentation says

This file: the *pattern* kinds.

* `glob` (`src/rules/glob.rs`, crate wildmatch): `globRuleMatches e line` is
  `WildMatch::new(e).matches(trim_newlines(line))`. `GlobRel` is the documented meaning
  (`?` exactly one character, `*` any run, everything else literal, whole text).
* Cram-compat `glob` (`src/rules/glob_cram.rs`): additionally `\*`, `\?`, `\\` are literals
  (`cramTokens`), `TokRel` is the meaning of the anchored regex it compiles to.
* `regex` (`src/rules/regex.rs`): `regexRuleMatches e line` is an unanchored search for
  `^(?:e)$` on `trim_newlines(line)`; `Matches e s 0 |s|` says that `e` matches the whole of `s`.

Hypotheses, all explicit:
* text is `List Char`: the line is the decoding of a valid UTF-8 byte string (for an undecodable
  line `GlobRule` sees U+FFFD, the two regex based rules cannot match across the bad byte —
  observed and recorded by the harness, outside these theorems);
* `IsLine line`: no newline except possibly the last character (what `split_at_newline` yields).
  The rules strip *all* trailing newlines, the documentation speaks of *the* final newline:
  without `IsLine` the statements are false (`C04_glob_unguarded_fails_on_witness`).
* regex: the regex crate's syntax/engine is not modelled; in the whole-line theorems `e` ranges over
  the AST `RE`. The three Cram-compat clean-up passes of `RegexRule::make` are modelled on the
  expression *text* (`Model/RegexCleanup.lean`, `regexClean`): `C04_cleanup_identity` says which
  expressions reach the compiler exactly as written; `C04_cleanup_keeps_quantifiers` and
  `C04_cleanup_escapes_other_braces` say, for all inputs, what happens at a `{`: a valid repetition
  quantifier is kept, every other brace pair is escaped (`C04_cleanup_braces_all` for any number of
  them in one expression); for the others the passes can change the meaning of a valid regex (open
  findings, `C04_cleanup_*_witness`).
-/
namespace Scrut.Props.C04
open Scrut.Glob Scrut.Regex Scrut.RegexCleanup

-- The string kinds `equal`, `no-eol` and `escaped` are in `Lemmas/RulesStr.lean` (`Rules.equal_iff`,
-- `Rules.noeol_iff`, `Rules.escaped_iff`), the documented reading of escape sequences in
-- `Lemmas/EscapedGrammar.lean` (`EscLemmas.decode_of_Unescape`).

/-- wildmatch (with its `**` simplification) decides exactly the documented relation, for all
patterns and all texts -/
theorem C04_glob_iff (p s : List Char) : globMatch p s = true ↔ GlobRel p s :=
  globMatch_iff p s

/-- the algorithm the wildmatch crate actually runs — its iterative loop with one backtrack point,
transliterated as `wildLoop`, started by `wildMatch` with the fuel `wildFuel` — never runs out of
fuel and returns exactly `globMatch`, for all patterns and texts -/
theorem C04_wildmatch_is_glob (p s : List Char) : wildMatch p s = some (globMatch p s) :=
  wildMatch_eq p s

/-- hence the crate's loop accepts exactly the documented relation -/
theorem C04_wildmatch_iff (p s : List Char) : wildMatch p s = some true ↔ GlobRel p s := by
  rw [wildMatch_eq, ← globMatch_iff]
  simp

/-- **C04 (glob)**: a line matches a `glob` expectation iff the whole line, final newline ignored,
is an instance of the pattern.
Full-strength statement (false, see the witness below): the same without `IsLine`. -/
theorem C04_glob_line_partial (e line : List Char) (h : IsLine line) :
    globRuleMatches e line = true ↔ GlobRel e (dropFinalNewline line) := by
  unfold globRuleMatches
  rw [trimNewlines_of_isLine h]
  exact globMatch_iff _ _

/-- without `IsLine`: `a (glob)` matches `a\n\n`, whose text without the final newline is `a\n` -/
theorem C04_glob_unguarded_fails_on_witness :
    globRuleMatches ['a'] ['a', '\n', '\n'] = true ∧ ¬ GlobRel ['a'] (dropFinalNewline ['a', '\n', '\n']) := by
  refine ⟨by decide, ?_⟩
  rw [← globMatch_iff]
  decide +kernel

/-- `?` is exactly one character: never zero, never two, also for a multi-byte character -/
theorem C04_glob_qmark_one_char (s : List Char) : GlobRel ['?'] s ↔ ∃ c, s = [c] := by
  rw [← globMatch_iff]
  cases s with
  | nil => simp [globMatch, simplify, globGo]
  | cons c s => cases s <;> simp [globMatch, simplify, globGo]

/-- `*` is any run -/
theorem C04_glob_star_any (s : List Char) : GlobRel ['*'] s :=
  GlobRel.star s (by simp) GlobRel.nil

theorem C04_cram_glob_iff (p s : List Char) : cramMatch p s = true ↔ TokRel (cramTokens p) s :=
  cramMatch_iff p s

/-- **C04 (glob, Cram-compat)**: whole line, final newline ignored, against the token reading -/
theorem C04_cram_glob_line_partial (e line : List Char) (h : IsLine line) :
    cramRuleMatches e line = true ↔ TokRel (cramTokens e) (dropFinalNewline line) := by
  unfold cramRuleMatches
  rw [trimNewlines_of_isLine h]
  exact cramMatch_iff _ _

/-- without a backslash in the pattern the Cram-compat glob is the plain glob -/
theorem C04_cram_glob_is_glob (e line : List Char) (he : '\\' ∉ e) (hl : IsLine line) :
    cramRuleMatches e line = globRuleMatches e line := by
  unfold cramRuleMatches globRuleMatches
  rw [trimNewlines_of_isLine hl]
  exact cramMatch_eq_globMatch e _ he hl

/-- **C04 (regex), whole line**: searching for `^(?:e)$` anywhere in `s` succeeds iff `e` matches
from position 0 to position `|s|` — not merely a prefix or a suffix. For every `e` (any nesting of
alternations, also anchors inside). -/
theorem C04_regex_whole_line (e : RE) (s : List Char) :
    searchMatch (wrap e) s ↔ Matches e s 0 s.length :=
  search_wrap_iff e s

/-- the executable search used in the correspondence decides the relational semantics -/
theorem C04_regex_search_decides (r : RE) (s : List Char) : searchB r s = true ↔ searchMatch r s :=
  searchB_iff r s

/-- **C04 (regex)**: a line matches a `regex` expectation iff the whole line, final newline ignored,
matches the expression. -/
theorem C04_regex_line_partial (e : RE) (line : List Char) (h : IsLine line) :
    regexRuleMatches e line = true ↔
      Matches e (dropFinalNewline line) 0 (dropFinalNewline line).length := by
  rw [regexRuleMatches_iff, trimNewlines_of_isLine h]

/-- why the non-capturing group matters: the wrap `^e$` of the code before the fix, for `e = a|b`,
is `^a|b$` — a prefix matching `a` or a suffix matching `b` is enough -/
theorem C04_old_wrap_prefix_or_suffix (a b : RE) (s : List Char)
    (ha : bolFirst a = .seq .bol a) (hb : eolLast b = .seq b .eol) :
    searchMatch (oldWrap (.alt a b)) s ↔ (∃ j, Matches a s 0 j) ∨ (∃ i, Matches b s i s.length) :=
  search_oldWrap_alt a b s ha hb

/-- `a|b (regex)` against `axxx`: accepted by the old wrap, not a whole-line match, rejected by the
current wrap -/
theorem C04_old_wrap_fails_on_witness :
    searchMatch (oldWrap (.alt (.chr 'a') (.chr 'b'))) ['a', 'x', 'x', 'x'] ∧
    ¬ Matches (.alt (.chr 'a') (.chr 'b')) ['a', 'x', 'x', 'x'] 0 4 ∧
    ¬ searchMatch (wrap (.alt (.chr 'a') (.chr 'b'))) ['a', 'x', 'x', 'x'] :=
  oldWrap_witness

/-- **clean-up is the identity on plain expressions**: no `{ } [ ]`, every backslash followed by a
character after which it is kept (`[ ] { } ( ) | ? * + - . ^ $ \`, ASCII letters) or last, no `<<<<`.
For these the compiled pattern is `^(?:e)$` for exactly the text the user wrote, so
`C04_regex_whole_line` speaks about the user's expression. -/
theorem C04_cleanup_identity (e : List Char) (h : plain e = true) : regexClean e = e := by
  simp only [plain, Bool.and_eq_true, Bool.not_eq_true', List.contains_eq_mem,
    decide_eq_false_iff_not] at h
  obtain ⟨⟨⟨⟨⟨h1, h2⟩, h3⟩, h4⟩, h5⟩, h6⟩ := h
  unfold regexClean quantPass
  rw [(escPass_id e).1 h5, protect_id e h1, braceEsc_id e h1 h2, restore_id e h6, ccPass_id e h3 h4]

/-- open finding `C04:regex-cleanup-changes-valid-regex` on the model: `[a]]` (class `a`, then a
literal `]`) is compiled as `[a\]]` (class of `a` and `]`) -/
theorem C04_cleanup_bracket_witness :
    regexClean ['[', 'a', ']', ']'] = ['[', 'a', '\\', ']', ']'] := by decide +kernel

/-- open finding `C04:regex-valid-regex-rejected` on the model: `[a-]]` becomes `[a-\]]`, an
invalid range -/
theorem C04_cleanup_range_witness :
    regexClean ['[', 'a', '-', ']', ']'] = ['[', 'a', '-', '\\', ']', ']'] := by decide +kernel

/-- same two classes, other root cause (pass 2.3 restores *every* `<<<<…>>>>`, not only the ones
pass 2.1 produced): the literal text `x<<<<1>>>>` becomes the quantifier `x{1}`, and `<<<<a>>>>`
becomes `{a}`, which does not compile -/
theorem C04_cleanup_angle_witness :
    regexClean ['x', '<', '<', '<', '<', '1', '>', '>', '>', '>'] = ['x', '{', '1', '}'] ∧
    regexClean ['<', '<', '<', '<', 'a', '>', '>', '>', '>'] = ['{', 'a', '}'] := by
  constructor <;> decide +kernel

/-- the three forms of a repetition quantifier are left alone (`{3,}` only since fix 228674f "open-ended repetition
quantifier": before, `a{3,}` was compiled as the literal text `a\{3,\}`), while braces that are not a
quantifier are escaped -/
theorem C04_cleanup_quantifier_witness :
    regexClean ['a', '{', '3', '}'] = ['a', '{', '3', '}'] ∧
    regexClean ['a', '{', '3', ',', '6', '}'] = ['a', '{', '3', ',', '6', '}'] ∧
    regexClean ['a', '{', '3', ',', '}'] = ['a', '{', '3', ',', '}'] ∧
    regexClean ['a', '{', ',', '3', '}'] = ['a', '\\', '{', ',', '3', '\\', '}'] ∧
    regexClean ['a', '{', 'b', '}'] = ['a', '\\', '{', 'b', '\\', '}'] := by
  refine ⟨?_, ?_, ?_, ?_, ?_⟩ <;> decide +kernel

/-! ### braces, for all inputs

`simple c`: `c` is none of `\ { } [ ] <` (so `>` and the line feed are simple).
`quantTail t`: `t` is empty or a comma followed by digits only (possibly none: the open-ended `{n,}`).
`quantBody q`: `q` is a non-empty run of digits followed by a `quantTail` (`C04_quantBody_iff`). -/

/-- **valid repetition quantifiers survive the clean-up unchanged**: `{n}`, `{n,m}` and `{n,}`
(`d1` the non-empty first number, `tail` nothing or `,` and a possibly empty second number) after any
simple text `pre` are copied as written; what follows the closing brace is arbitrary and is cleaned
on its own, so the statement applies again to the next quantifier in `rest`. -/
theorem C04_cleanup_keeps_quantifiers (pre d1 tail rest : List Char) (hpre : pre.all simple = true)
    (h1 : d1 ≠ []) (hd : d1.all isDigit = true) (ht : quantTail tail = true) :
    regexClean (pre ++ '{' :: d1 ++ tail ++ '}' :: rest) =
      pre ++ '{' :: d1 ++ tail ++ '}' :: regexClean rest := by
  have hq := (quantBody_iff _).mpr ⟨d1, tail, rfl, h1, hd, ht⟩
  simp only [List.append_assoc, List.cons_append]
  rw [regexClean_simple_prefix pre _ hpre, ← List.append_assoc d1, regexClean_quant_step _ rest hq]
  simp only [List.append_assoc]

/-- in simple context the whole expression reaches the compiler exactly as written -/
theorem C04_cleanup_keeps_quantifiers_simple_context (pre d1 tail suf : List Char)
    (hpre : pre.all simple = true) (h1 : d1 ≠ []) (hd : d1.all isDigit = true)
    (ht : quantTail tail = true) (hsuf : suf.all simple = true) :
    regexClean (pre ++ '{' :: d1 ++ tail ++ '}' :: suf) = pre ++ '{' :: d1 ++ tail ++ '}' :: suf := by
  rw [C04_cleanup_keeps_quantifiers pre d1 tail suf hpre h1 hd ht, regexClean_simple suf hsuf]

/-- **braces that are not a quantifier get escaped**: a brace pair around simple text `b` that is not
a quantifier body, after simple text `pre`, gets a backslash in front of both braces; `rest` is
arbitrary and is cleaned on its own. -/
theorem C04_cleanup_escapes_other_braces (pre b rest : List Char) (hpre : pre.all simple = true)
    (hb : b.all simple = true) (hq : quantBody b = false) :
    regexClean (pre ++ '{' :: b ++ '}' :: rest) =
      pre ++ '\\' :: '{' :: b ++ '\\' :: '}' :: regexClean rest := by
  simp only [List.append_assoc, List.cons_append]
  rw [regexClean_simple_prefix pre _ hpre, regexClean_nonquant_step b rest hb hq]

theorem C04_cleanup_escapes_other_braces_simple_context (pre b suf : List Char)
    (hpre : pre.all simple = true) (hb : b.all simple = true) (hq : quantBody b = false)
    (hsuf : suf.all simple = true) :
    regexClean (pre ++ '{' :: b ++ '}' :: suf) = pre ++ '\\' :: '{' :: b ++ '\\' :: '}' :: suf := by
  rw [C04_cleanup_escapes_other_braces pre b suf hpre hb hq, regexClean_simple suf hsuf]

/-- the hypothesis `quantBody b = false` is exactly "pass 2.1's regex does not match after the `{`" -/
theorem C04_not_quantifier_iff (b rest : List Char) (hb : b.all simple = true) :
    matchQuant (b ++ '}' :: rest) = none ↔ quantBody b = false := by
  have h2 : '}' ∉ b := fun e => ((simple_iff _).mp (List.all_eq_true.mp hb _ e)).2.2.1 rfl
  rw [matchQuant_close b rest h2]
  cases quantBody b <;> simp

/-- `quantBody` read out: a non-empty number, then nothing or a comma and a possibly empty number -/
theorem C04_quantBody_iff (q : List Char) :
    quantBody q = true ↔
      ∃ d1 tail, q = d1 ++ tail ∧ d1 ≠ [] ∧ d1.all isDigit = true ∧ quantTail tail = true :=
  quantBody_iff q

/-- special cases of "not a quantifier": `{}`, a first character that is not a digit (`{x…}`), and
in particular a leading comma (`{,3}`) -/
theorem C04_not_quantifier_cases :
    quantBody [] = false ∧ (∀ c r, isDigit c = false → quantBody (c :: r) = false) ∧
      (∀ d, quantBody (',' :: d) = false) := by
  have h2 : ∀ c r, isDigit c = false → quantBody (c :: r) = false := by
    intro c r hc
    simp [quantBody, hc]
  exact ⟨rfl, h2, fun d => h2 ',' d (by decide)⟩

/-- **any number of brace pairs**: for every expression that is a sequence of simple characters and
brace pairs around simple text, the compiled text is the same sequence with exactly the brace pairs
that are not quantifiers escaped -/
theorem C04_cleanup_braces_all (ps : List Piece) (h : ps.all Piece.ok = true) :
    regexClean (ps.flatMap Piece.text) = ps.flatMap Piece.cleaned :=
  regexClean_pieces ps h

/-! ## Non-vacuity -/

example : IsLine ['a', 'b', '\n'] := by decide +kernel
example : IsLine [] := by decide +kernel
example : ¬ IsLine ['a', '\n', '\n'] := by decide +kernel
example : globRuleMatches ['a', '*', '?'] ['a', 'x', 'é', '\n'] = true := by decide +kernel
example : globRuleMatches ['a', '?'] ['a', '\n'] = false := by decide +kernel
example : cramRuleMatches ['a', '\\', '*'] ['a', '*', '\n'] = true := by decide +kernel
example : cramRuleMatches ['a', '\\', '*'] ['a', 'b', '\n'] = false := by decide +kernel
example : regexRuleMatches (.alt (.chr 'a') (.chr 'b')) ['b', '\n'] = true := by decide +kernel
example : regexRuleMatches (.alt (.chr 'a') (.chr 'b')) ['a', 'x', 'x', 'x', '\n'] = false := by decide +kernel
example : bolFirst (.chr 'a') = .seq .bol (.chr 'a') := rfl
example : plain ['a', '|', 'b', '\\', '.', '(', '?', ':', 'c', ')', '*'] = true := by decide +kernel
example : plain ['a', '\\', '_'] = false := by decide +kernel
example : regexClean ['a', '{', '3', '}', '{', 'x', '}'] = ['a', '{', '3', '}', '\\', '{', 'x', '\\', '}'] := by decide +kernel
example : wildMatch ['a', '*', '*', '?'] ['a', 'x', 'y'] = some true := by decide +kernel

-- `a{12,}b`, `a{12,}` followed by something that is not simple, `x{3}{,4}`
example : regexClean ['a', '{', '1', '2', ',', '}', 'b'] = ['a', '{', '1', '2', ',', '}', 'b'] :=
  C04_cleanup_keeps_quantifiers_simple_context ['a'] ['1', '2'] [','] ['b'] (by decide) (by decide)
    (by decide) (by decide) (by decide)
example : regexClean ['a', '{', '1', '2', ',', '3', '}', '[', 'a', ']', ']'] =
    ['a', '{', '1', '2', ',', '3', '}'] ++ regexClean ['[', 'a', ']', ']'] :=
  C04_cleanup_keeps_quantifiers ['a'] ['1', '2'] [',', '3'] ['[', 'a', ']', ']'] (by decide) (by decide)
    (by decide) (by decide)
example : regexClean ['a', '{', ',', '3', '}', 'b'] = ['a', '\\', '{', ',', '3', '\\', '}', 'b'] :=
  C04_cleanup_escapes_other_braces_simple_context ['a'] [',', '3'] ['b'] (by decide)
    (by decide) (C04_not_quantifier_cases.2.2 ['3']) (by decide)
example : regexClean ['a', '{', '}', '{', '2', '}'] = ['a', '\\', '{', '\\', '}'] ++ regexClean ['{', '2', '}'] :=
  C04_cleanup_escapes_other_braces ['a'] [] ['{', '2', '}'] (by decide) (by decide) (by decide)
example : regexClean ['x', '{', '3', '}', '{', 'n', '}', 'y', '{', '1', ',', '}'] =
    ['x', '{', '3', '}', '\\', '{', 'n', '\\', '}', 'y', '{', '1', ',', '}'] :=
  C04_cleanup_braces_all
    [.chr 'x', .braces ['3'], .braces ['n'], .chr 'y', .braces ['1', ',']] (by decide)
example : quantBody ['1', '2', ','] = true ∧ quantBody ['1', ',', ','] = false ∧
    quantBody ['1', 'x'] = false ∧ simple '>' = true ∧ simple '<' = false := by decide +kernel

end Scrut.Props.C04
