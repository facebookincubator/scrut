import ScrutModel.Lemmas.UpdateRetok
import ScrutModel.Lemmas.UpdateRunWitness
/-!
# C10 — `update` rewrites only scrut blocks, keeps everything else, and is idempotent

Model: `Model/Update.lean` (`generateUpdate` = `MarkdownUpdateGenerator::generate_update`) on top of
the tokenizer model of C06.  Parameter: `gens`, the text `Outcome::generate_testcase` returns per
outcome (`none` = it fails); vocabulary: `Model/UpdateSpec.lean` (`Rewritten`, `BlockOut`,
`blockText`, `sameTexts`).

Proved here for **all** documents (any characters, malformed constructs included), all languages
lists and all generated texts:

* `C10_no_outcomes_untouched`, `C10_fails_only_for_outcomes` – without outcomes the document is
  returned as it is; the update never panics and fails only because an outcome is missing or
  cannot be rendered;
* `C10_outside_preserved` – the updated text arises from the lines of the document
  (`str::lines()`) by the rules of `Rewritten`: every line outside scrut blocks – prose,
  front-matter, foreign code blocks, also unterminated ones, also everything behind the last test –
  is written back as it is, in order, terminated by LF; nothing is dropped (the rules consume the
  whole document, `C06_tokens_cover`); every scrut block is replaced by exactly one block.  The
  full-strength statement

      theorem C10_outside_preserved_full : generateUpdate L doc gens = .ok out → Rewritten L gens true 0 (splitLines doc) out

  is **false**: an unterminated front-matter gains a closing `---`
  (`C10_front_matter_unterminated_fails_on_witness`, open finding
  `C10:front-matter-unterminated-gains-delimiter`); this is the extra rule of `Rewritten … false`.
  `C10_outside_preserved_partial` is the strict statement under the decidable guard `frontClosed`
  (every front-matter is closed).  Repaired by fix cdbfbca: a front-matter without lines gained an
  empty line (regression example `C10_front_matter_empty_kept`);
* `C10_blocks_kept` – every rewritten block is `fence + language + {config}` as read from the old
  fence line (spaces and tabs after `{` dropped, a configuration of white space only is none), a prefix of the old body lines (the comment lines),
  the generated text, the fence, with a fence of at least three backticks; a block without code
  keeps all its lines and uses no outcome (`BlockOut`);
* `C10_passing_verbatim` – if the generated text is the code of the block as written (which is
  what `generate_testcase` produces for a passing test: `$`/`>` lines, the expectation lines as
  written, the exit code line), the whole body is reproduced line for line;
* `C10_same_commands` – the updated document is tokenized into the same tokens in the same order
  (`Reread`): the same texts outside scrut blocks, every scrut block with its language, its
  configuration as `update` writes it and its comment lines; a block without code stays without
  code, the code lines of every other block are exactly the lines of the text generated for its
  outcome (so what the parser reads as command lines is what `generate_testcase` wrote);
* `C10_idempotent` – `update (update doc gens) gens = update doc gens`.
  Both under the decidable guards
  - no line of the document ends in a carriage return (the open finding
    `C10:not-idempotent-stray-carriage-return`, `C10_not_idempotent_stray_cr_witness`),
  - every front-matter is closed (`frontClosed`; open finding
    `C10:front-matter-unterminated-gains-delimiter`),
  - the test languages hold no backtick, `{` or white space (`LangOK`; true of `scrut`),
  - every generated text ends in LF and does not start with a comment line (`GenOK`; true of every
    text of `generate_testcase`, which starts with `$ `; needed: `C10_idempotent_needs_GenOK`).
  That no line of a generated text starts with the fence chosen for it is not a guard but proved
  from `max_backtick_size` (`C10_fence_safe`).  The remaining exception to idempotence is
  `gen' ≠ gen`: a block rewritten from retained quantified expectations can still fail on the same
  output, so the *outcomes* of the second run differ (C09 finding
  `update-retained-quantified-expectations`, harness class
  `C10:not-idempotent-retained-quantified-expectations`);
* `C10_idempotent_partial` – the token-level core: token streams with the same texts are written
  identically; `C10_lines_read_back`, `C10_fence_line_read_back` – the two read-back steps
  (repaired by fix cdbfbca: `{  }` became `{}` and then disappeared; regression example
  `C10_blank_config_idempotent`).

Normalisations that are part of the statement: line terminators become LF (CRLF is read as a
terminator, a final line without terminator gets one).

Not proved (oracle only): that the real parser, fed these code lines, yields the same shell
expressions as the original document (re-parse oracle of the well-formed stream; for the generated
texts that is C09's round trip); for the integrated model it is proved below, provided the written
document parses.

## The integrated model of `scrut update --replace --assume-yes` (`Model/UpdateRun.lean`)

`UpdateRun.updateDocument isOther content runs` composes read → parse → prepare → execute → validate
→ `generate_testcase` → `generate_update` → compare / write and is tied to the real BINARY by the
stream `e2e-upddoc`.  The theorems `C10_run_*` are the theorems above lifted through that
composition (proofs: `Lemmas/MarkdownAlign.lean`, `UpdateRunFront.lean`, `UpdateRunRejudge.lean`,
`UpdateRunProps.lean`, `UpdateRunConfig.lean`, `UpdateRunReparse.lean`, `UpdateRunExitFirst.lean`,
`UpdateRunParses.lean`, concrete documents: `UpdateRunWitness.lean`), for all documents and all
runs:

* `C10_run_bytes` – `updateDocumentBytes` is `updateDocument` behind `read_file`; every theorem
  below is a theorem about the bytes of the file through it;
* `C10_run_unfolded` – the text written is `generate_update` of the document with the texts that
  `generate_testcase` returned for the judged tests (`docGens`): one per test, none failing, each
  `GenOK` (proved, not assumed: `$ …` first, LF last) – so every theorem about `generateUpdate`
  above applies to the integrated function with its guards `LangOK` / `GenOK` discharged;
* **passing documents** – the statement

      theorem C10_run_passing_untouched : AllPass content runs → ∃ rs, updateDocument isOther content runs = .unchanged rs

  is **false** (`C10_run_passing_untouched_fails_on_witness`: a passing document whose last line has
  no line feed is written; finding `C10:passing-document-rewritten`, confirmed on the binary): a
  passing test is re-rendered (command, expectation lines as written, `[code]`), the rest of the
  document is normalised by `generate_update`.  `C10_run_passing_rerendered` is what is true
  without guard (the text written depends on the document only, not on the outputs),
  `C10_run_passing_untouched_partial` the statement under the decidable guard `Settled` (the
  document is its own re-rendering; `C10_run_idempotent_partial` says that the documents `update`
  writes are of that kind).  Since fix cfef990 (finding `C10:expectation-read-as-continuation`) the re-rendering
  of the passing test `$ x` / `[1]` / `> a` keeps the exit code line in front of `> a` (behind the command it
  would be the command's continuation, `x⏎a`), and the document is not written at all
  (`C10_run_passing_cont_kept`; the general statement: `C10_exit_code_first`, `C10_written_block_command`);
* `C10_run_outside_preserved`, `C10_run_outside_preserved_partial`, `C10_run_same_tokens` – lines
  outside scrut blocks, number and order of blocks, language / configuration / comment lines
  (`Rewritten`, `BlockOut`, `Reread` as above);
* **same commands, at the level of the parser** – the statement

      theorem C10_run_same_commands : updateDocument … = .updated text rs → parse content = .ok p → parse text = .ok p' →
          p'.tests.map (·.shellExpression) = p.tests.map (·.shellExpression)

  is **false**, for one reason only: `C10_run_same_commands_fails_on_witness` (a command line ending in
  a stray carriage return, `$ x␍␍⏎`, is the command `x␍` and is written `$ x␍⏎`, which `str::lines()` reads as
  `x`: the root cause of the open finding `C10:stray-carriage-return-dropped`).  Since fix 961e96b the command
  `x⏎` (`$ x` / `> `) keeps its empty continuation line (finding `C10:trailing-empty-continuation-dropped`,
  regression `C10_run_trailing_continuation_kept`).
  `C10_run_same_commands_partial` proves the statement under the decidable guard `NoStrayCR` alone
  (EVERY command, also one ending in an empty continuation line, and EVERY expectation line, also `> x`; no guard
  on the front-matter: a document that `update` writes has a test, and behind an unterminated front-matter there
  is none -- `C10_run_front_closed`), for any `isOther` with
  `AsciiContract` (C11), IF the written document parses (it does under the guards of `C10_run_idempotent_partial`:
  `C10_run_written_parses_partial`).  Underneath: `C10_expression_roundtrip` (the lines
  written for ANY command text are read back by the line parser as that command) and
  `C10_written_block_command` (whatever is written behind them, no line of it is taken for a continuation);
* **idempotence** – `C10_run_idempotent_same_texts_partial`: the second update writes nothing if
  it generates the same texts; `C10_run_idempotent_partial`: it does so – hence
  `update (update doc) = unchanged` – under the decidable guards `NoStrayCR`, exit codes 0..255, `QuantFree` (a test
  with `MalformedOutput` has no quantified expectation: the open finding
  `C10:not-idempotent-retained-quantified-expectations`).  There is no hypothesis about the
  WRITTEN document: that it is read -- it parses, its lines compile -- with the same test configurations is proved:
  - the written document parses (`C10_run_written_parses_partial`: tokens as in `Reread`, every rewritten block is
    the command lines, expectation lines that compile, at most one exit code line);
  - the tokenizer reads from the fence line `update` wrote exactly the configuration text `update` wrote
    (`writtenCfg`: the original text without its leading spaces and tabs, none if it was white space only:
    `C10_config_text_read_back`), and `Yaml.parseFlow` does not see spaces and tabs behind the opening brace
    (`C10_flow_blanks_skipped`, for ALL texts, proved through the fuel of the flow parser), so the configuration
    read back is the original one (`C10_config_read_back`; a text of Unicode white space only, written back as
    no configuration, is the empty mapping if it is read at all);
  - the guard `FrontClosed` follows from `… = .updated …` (`C10_run_front_closed`).
  Since fix 15b47d2 (finding `C10:config-leading-white-space-changes-configuration`) `update` drops spaces and tabs
  only in front of an inline configuration (`trim_start_matches([' ', '\t'])`, `Update.blankStart`), which is what
  YAML skips.  Until then it used `trim_start()` -- Unicode `White_Space` --: `{<U+00A0>output_stream: stderr}` holds
  the unknown key `<U+00A0>output_stream` (ignored: the test validates STDOUT) and was written back as
  `{output_stream: stderr}`, so that the PASSING test `$ echo a; echo b >&2` / `a` failed after the first update
  and was rewritten to `b` by the second.  Regression theorem: `C10_run_config_white_space_kept`.
-/
namespace Scrut.Props.C10
open Scrut Scrut.Markdown Scrut.Update

/-- Without outcomes nothing is written: the document is returned byte for byte. -/
theorem C10_no_outcomes_untouched (L : List Line) (doc : List Char) :
    generateUpdate L doc [] = .ok doc :=
  generateUpdate_no_outcomes L doc

/-- The update never panics; it fails only if the outcome for a test block with code is missing or
cannot be rendered – never because of the shape of the document. -/
theorem C10_fails_only_for_outcomes (L : List Line) (doc : List Char) (gens : List (Option (List Char)))
    (e : Update.Err) (h : generateUpdate L doc gens = .error e) :
    (∃ i, e = .noOutcome i ∧ gens[i]? = none) ∨ (∃ i, e = .generate i ∧ gens[i]? = some none) := by
  by_cases hne : gens = []
  · rw [hne, generateUpdate_no_outcomes] at h
    cases h
  · rw [generateUpdate_eq L doc hne] at h
    exact emit_error gens _ 0 e h

/-- Everything outside scrut blocks is written back line by line, in order, nothing is dropped or
truncated; the only addition is the closing `---` of an unterminated front-matter (`Rewritten … false`). -/
theorem C10_outside_preserved (L : List Line) (doc : List Char) (gens : List (Option (List Char)))
    (hne : gens ≠ []) (out : List Char) (h : generateUpdate L doc gens = .ok out) :
    Rewritten L gens false 0 (splitLines doc) out :=
  generateUpdate_rewritten L doc gens hne out h

/-- The strict reading (no line added anywhere outside scrut blocks) for documents whose
front-matter, if any, is closed. -/
theorem C10_outside_preserved_partial (L : List Line) (doc : List Char) (gens : List (Option (List Char)))
    (hne : gens ≠ []) (out : List Char) (h : generateUpdate L doc gens = .ok out)
    (toks : List Tok) (ht : tokenize L (splitLines doc) = .ok toks)
    (hf : frontClosed (splitLines doc).length 0 toks = true) :
    Rewritten L gens true 0 (splitLines doc) out :=
  generateUpdate_rewritten_strict L doc gens hne out h toks ht hf

/-- Language, inline configuration and the lines in front of the code are kept, the fence has at
least three backticks, the block is closed. -/
theorem C10_blocks_kept (gens : List (Option (List Char))) (k k' : Nat) (body : List Line)
    (language config : Line) (blockOut : List Char) (h : BlockOut gens k body language config blockOut k') :
    ∃ n head text, 3 ≤ n ∧ head <+: body ∧ blockOut = blockText (backticks n) language config head text := by
  obtain ⟨head, code, hb, h⟩ := h
  rcases h with ⟨_, h, _⟩ | ⟨_, g, _, h, _⟩
  · exact ⟨3, head, [], Nat.le_refl _, ⟨code, hb⟩, h⟩
  · have := two_le_maxBacktickSize g
    exact ⟨maxBacktickSize g + 1, head, g, by omega, ⟨code, hb⟩, h⟩

/-- the text `generate_testcase` writes for a passing test: its code lines as written -/
def passingText (b : Block) : List Char := unlines b.code

/-- A block rewritten from its own code lines has its whole body (comments, command, expectation
lines, exit code line) reproduced line for line. -/
theorem C10_passing_verbatim (bt : Line) (b : Block) :
    blockText bt b.language b.config b.comments (passingText b)
      = bt ++ b.language ++ configSuffix (cfgLines 0 b.config) ++ ['\n'] ++ unlines b.body ++ bt ++ ['\n'] := by
  simp [passingText, Block.body, blockText, unlines_append]

/-- Idempotence reduces to (1) the generator reproducing its own texts (`gens` is the same – C09's
business) and (2) the updated document being read back with the same texts per token. -/
theorem C10_idempotent_partial (gens : List (Option (List Char))) (toks toks' : List Tok)
    (h : AllSame toks toks') (k : Nat) : emit gens k toks' = emit gens k toks :=
  emit_sameTexts gens toks toks' h k

/-- What `update` writes – lines terminated by LF – is read back by `str::lines()` line for line,
provided no line ends in a carriage return. -/
theorem C10_lines_read_back (ls : List Line) (h : ∀ l ∈ ls, '\n' ∉ l ∧ l.getLast? ≠ some '\r') :
    splitLines (unlines ls) = ls :=
  splitLines_unlines ls h

/-- The fence line of a rewritten block (at least three backticks, a language without backtick,
`{` and white space, the configuration as `update` writes it) is read back with the same backticks
and language, and with a configuration that the next update writes identically. -/
theorem C10_fence_line_read_back (n : Nat) (hn : 3 ≤ n) (lang : Line) (hl : LangOK lang) (cfg : Numbered) :
    ∃ config', extractCodeBlockStart (backticks n ++ lang ++ configSuffix cfg) = .ok (some (backticks n, lang, config')) ∧
      ∀ j, configSuffix (cfgLines j config') = configSuffix cfg := by
  obtain ⟨c, h1, h2, _⟩ := fence_line_reread_cfg n hn lang hl cfg
  exact ⟨c, by rw [extractCodeBlockStart_eq, h1], h2⟩

/-- … also a configuration that holds a backtick (the fence recogniser looks for a backtick only
in front of the first `{`; between the fix "the info string of a fence holds no backtick" and its
follow-up this line was read as prose): the fence line written for the configuration text
`environment: {K: "`"}` is read back. -/
theorem C10_fence_line_backtick_config_read_back :
    extractCodeBlockStart (backticks 3 ++ "scrut".toList ++ configSuffix [(0, "environment: {K: \"`\"}".toList)])
      = .ok (some (backticks 3, "scrut".toList, "{environment: {K: \"`\"}}".toList)) := by
  simp only [String.reduceToList]
  decide +kernel

/-- No line of a generated text starts with the fence that `update` chooses for its block
(`max_backtick_size + 1` backticks): the text cannot close its own block early. -/
theorem C10_fence_safe (g : List Char) :
    ∀ l ∈ splitLines g, startsWith l (backticks (maxBacktickSize g + 1)) = false :=
  gen_lines_fence_safe g

/-- The updated document is tokenized into the same tokens, in the same order: same texts outside
scrut blocks, same language / configuration / comment lines per block, code lines = the lines of
the generated text. -/
theorem C10_same_commands (L : List Line) (hL : ∀ lang, L.contains lang = true → LangOK lang)
    (gens : List (Option (List Char))) (hne : gens ≠ [])
    (hg : ∀ (k : Nat) (g : List Char), gens[k]? = some (some g) → GenOK g)
    (doc out : List Char) (hcr : ∀ l ∈ splitLines doc, l.getLast? ≠ some '\r')
    (toks : List Tok) (ht : tokenize L (splitLines doc) = .ok toks)
    (hfc : frontClosed (splitLines doc).length 0 toks = true)
    (h : generateUpdate L doc gens = .ok out) :
    ∃ toks', tokenize L (splitLines out) = .ok toks' ∧ Reread gens 0 toks toks' :=
  generateUpdate_reread L hL gens hne hg doc out hcr toks ht hfc h

/-- **Idempotence**: updating the updated document with the same generated texts changes nothing. -/
theorem C10_idempotent (L : List Line) (hL : ∀ lang, L.contains lang = true → LangOK lang)
    (gens : List (Option (List Char))) (hne : gens ≠ [])
    (hg : ∀ (k : Nat) (g : List Char), gens[k]? = some (some g) → GenOK g)
    (doc out : List Char) (hcr : ∀ l ∈ splitLines doc, l.getLast? ≠ some '\r')
    (toks : List Tok) (ht : tokenize L (splitLines doc) = .ok toks)
    (hfc : frontClosed (splitLines doc).length 0 toks = true)
    (h : generateUpdate L doc gens = .ok out) :
    generateUpdate L out gens = .ok out :=
  generateUpdate_idempotent L hL gens hne hg doc out hcr toks ht hfc h

/-! ## witnesses and non-vacuity -/

/-- the default language satisfies `LangOK` -/
example : LangOK ['s', 'c', 'r', 'u', 't'] := by
  exact GenLemmas.langOK_scrut

def scrut : List Line := [['s', 'c', 'r', 'u', 't']]

def docEmptyFront : List Char := ['-', '-', '-', '\n', '-', '-', '-', '\n', 't', 'e', 'x', 't', '\n']
def docOpenFront : List Char := ['-', '-', '-', '\n', 'a', ':', ' ', '1', '\n']
def outOpenFront : List Char := ['-', '-', '-', '\n', 'a', ':', ' ', '1', '\n', '-', '-', '-', '\n']
def docBlankCfg : List Char := ['`', '`', '`', 's', 'c', 'r', 'u', 't', ' ', '{', ' ', ' ', '}', '\n', '$', ' ', 'x', '\n', '`', '`', '`', '\n']
def out2BlankCfg : List Char := ['`', '`', '`', 's', 'c', 'r', 'u', 't', '\n', '$', ' ', 'x', '\n', '`', '`', '`', '\n']
def docStrayCr : List Char := ['a', '\r', '\r', '\n', '`', '`', '`', 's', 'c', 'r', 'u', 't', '\n', '$', ' ', 'x', '\n', '`', '`', '`', '\n']
def out1StrayCr : List Char := ['a', '\r', '\n', '`', '`', '`', 's', 'c', 'r', 'u', 't', '\n', '$', ' ', 'x', '\n', '`', '`', '`', '\n']
def out2StrayCr : List Char := ['a', '\n', '`', '`', '`', 's', 'c', 'r', 'u', 't', '\n', '$', ' ', 'x', '\n', '`', '`', '`', '\n']
def genX : List Char := ['$', ' ', 'x', '\n']
def docNormal : List Char := ['-', '-', '-', '\n', 'a', ':', ' ', '1', '\n', '-', '-', '-', '\n', '#', ' ', 'T', '\n', '\n', '`', '`', '`', '`', 's', 'c', 'r', 'u', 't', ' ', '{', ' ', 't', 'i', 'm', 'e', 'o', 'u', 't', ':', ' ', '5', 's', '}', '\n', '#', ' ', 'c', '\n', '$', ' ', 'x', '\n', 'o', 'l', 'd', '\n', '`', '`', '`', '`', '\n', '`', '`', '`', 'p', 'y', '\n', '$', ' ', 'n', 'o', '\n', '`', '`', '`', '\n', 'e', 'n', 'd']
def outNormal : List Char := ['-', '-', '-', '\n', 'a', ':', ' ', '1', '\n', '-', '-', '-', '\n', '#', ' ', 'T', '\n', '\n', '`', '`', '`', 's', 'c', 'r', 'u', 't', ' ', '{', 't', 'i', 'm', 'e', 'o', 'u', 't', ':', ' ', '5', 's', '}', '\n', '#', ' ', 'c', '\n', '$', ' ', 'x', '\n', 'n', 'e', 'w', '\n', '`', '`', '`', '\n', '`', '`', '`', 'p', 'y', '\n', '$', ' ', 'n', 'o', '\n', '`', '`', '`', '\n', 'e', 'n', 'd', '\n']
def genNew : List Char := ['$', ' ', 'x', '\n', 'n', 'e', 'w', '\n']

/-- Repaired by fix cdbfbca (was harness class `C10:front-matter-empty-gains-blank-line`): a
front-matter without lines is written back as it is. -/
theorem C10_front_matter_empty_kept :
    generateUpdate scrut docEmptyFront [some genX] = .ok docEmptyFront := by decide +kernel

/-- DEVIATION (harness class `C10:front-matter-unterminated-gains-delimiter`) -/
theorem C10_front_matter_unterminated_fails_on_witness :
    generateUpdate scrut docOpenFront [some genX] = .ok outOpenFront := by decide +kernel

/-- Repaired by fix cdbfbca (was harness class `C10:not-idempotent-blank-inline-config`): a
configuration of white space only is written as none, and the second update changes nothing. -/
theorem C10_blank_config_idempotent :
    generateUpdate scrut docBlankCfg [some genX] = .ok out2BlankCfg ∧
    generateUpdate scrut out2BlankCfg [some genX] = .ok out2BlankCfg := by
  decide +kernel

/-- DEVIATION (harness classes `C10:not-idempotent-stray-carriage-return`,
`C10:stray-carriage-return-dropped`) -/
theorem C10_not_idempotent_stray_cr_witness :
    generateUpdate scrut docStrayCr [some genX] = .ok out1StrayCr ∧
    generateUpdate scrut out1StrayCr [some genX] = .ok out2StrayCr ∧ out2StrayCr ≠ out1StrayCr := by
  decide +kernel

/-- a normal document: front-matter, title, a four-backtick block with configuration and comment,
a foreign block, a last line without terminator -/
theorem C10_example_document :
    generateUpdate scrut docNormal [some genNew] = .ok outNormal := by decide +kernel

/-- the guard of `C10_outside_preserved_partial` holds for it -/
example : ∃ toks, tokenize scrut (splitLines docNormal) = .ok toks ∧
    frontClosed (splitLines docNormal).length 0 toks = true := by
  refine ⟨_, tokenize_eq _ _, by decide +kernel⟩

/-- `AllSame` is satisfiable by token streams with different line numbers -/
example : AllSame [.line 0 ['a'], .test ['s'] [] [(1, ['#'])] [(2, ['x'])]]
    [.line 5 ['a'], .test ['s'] [] [(7, ['#'])] [(8, ['y']), (9, ['z'])]] :=
  .cons rfl (.cons ⟨rfl, rfl, rfl, rfl⟩ .nil)

def docOneBlock : List Char := ['`', '`', '`', 's', 'c', 'r', 'u', 't', '\n', '$', ' ', 'x', '\n', '`', '`', '`', '\n']
def genComment : List Char := ['#', ' ', 'c', '\n', '$', ' ', 'x', '\n']
def out1Comment : List Char := ['`', '`', '`', 's', 'c', 'r', 'u', 't', '\n', '#', ' ', 'c', '\n', '$', ' ', 'x', '\n', '`', '`', '`', '\n']
def out2Comment : List Char := ['`', '`', '`', 's', 'c', 'r', 'u', 't', '\n', '#', ' ', 'c', '\n', '#', ' ', 'c', '\n', '$', ' ', 'x', '\n', '`', '`', '`', '\n']

/-- `GenOK` is needed: a generated text that starts with a comment line is read back as a comment
in front of the code, and the next update writes it twice.  (No text of `generate_testcase` starts
like that.) -/
theorem C10_idempotent_needs_GenOK :
    generateUpdate scrut docOneBlock [some genComment] = .ok out1Comment ∧
    generateUpdate scrut out1Comment [some genComment] = .ok out2Comment ∧ out2Comment ≠ out1Comment := by
  decide +kernel

/-- the guards of `C10_idempotent` hold for the example document and its generated text -/
example : GenOK genNew := by unfold GenOK; decide +kernel
example : ∀ l ∈ splitLines docNormal, l.getLast? ≠ some '\r' := by decide +kernel
example : ∀ lang, scrut.contains lang = true → LangOK lang := by
  intro lang h
  obtain rfl : lang = ['s', 'c', 'r', 'u', 't'] := by simpa [scrut] using h
  exact GenLemmas.langOK_scrut

/-! ## the integrated model of `scrut update` (`Model/UpdateRun.lean`) -/

section Integrated
open Scrut.UpdateRun Scrut.UpdateRun.Witness
open Scrut.EscLemmas (AsciiContract)

/-- `updateDocumentBytes` is `updateDocument` on what `read_file` returns. -/
theorem C10_run_bytes (isOther : Char → Bool) (bytes : List UInt8) (runs : List TestRun.Ran) (content : List Char)
    (hread : TestRun.readFile bytes = .ok content) :
    updateDocumentBytes isOther bytes runs = updateDocument isOther content runs :=
  updateDocumentBytes_of_read isOther bytes runs content hread

/-- The file is overwritten with `generate_update` of the document and the texts of the judged
tests: one text per test, none missing, each `GenOK`; the text differs from the document. -/
theorem C10_run_unfolded (isOther : Char → Bool) (content : List Char) (runs : List TestRun.Ran)
    (text : List Char) (results : List Gen.UpdResult)
    (h : updateDocument isOther content runs = .updated text results) :
    ∃ gens, docGens isOther content runs = some gens ∧ gens ≠ [] ∧ gens.length = results.length ∧
      (∀ (k : Nat) (x : Option (List Char)), gens[k]? = some x → ∃ g, x = some g ∧ GenOK g) ∧
      generateUpdate [Gen.language] content gens = .ok text ∧ text ≠ content := by
  obtain ⟨tests, os, hu⟩ := updated_spec h
  exact ⟨_, hu.gens_eq, hu.gens_ne, by simp [hu.results_eq], judgeAll_gens hu.judged, hu.written, hu.changed⟩

/-! ### U1: passing documents

FALSE without guard (the full-strength statement):

    theorem C10_run_passing_untouched (isOther) (content) (runs) (hp : AllPass content runs) :
        ∃ rs, updateDocument isOther content runs = .unchanged rs
-/

/-- DEVIATION (finding `C10:passing-document-rewritten`): the only test of the document passes,
and the file is written: its last line gains a line feed. -/
theorem C10_run_passing_untouched_fails_on_witness :
    AllPass docNoLf [runA] ∧
    ∀ isOther, updateDocument isOther docNoLf [runA] = .updated (docNoLf ++ ['\n']) [.ok] := by
  have hp : AllPass docNoLf [runA] := allPass_of_allPassB (by decide +kernel)
  exact ⟨hp, fun f => (updateDocument_allPass hp f ctrl).trans (by decide +kernel)⟩

/-- Repaired by fix cfef990 (finding `C10:expectation-read-as-continuation`: the passing test `$ x` / `[1]` /
`> a` was rewritten to `$ x` / `> a` / `[1]`, whose command is `x⏎a`): the text of a passing test keeps the exit code line -- also `[0]` -- in
front of an expectation line that starts with `> `, so these documents are not written at all. -/
theorem C10_run_passing_cont_kept :
    AllPass docCont [runCont] ∧
    (∀ isOther, updateDocument isOther docCont [runCont] = .unchanged [.ok]) ∧
    (∀ isOther, updateDocument isOther docCont0 [runCont0] = .unchanged [.ok]) ∧
    (parseMarkdown TestRun.parseEnv docCont).toOption.map (fun p => p.tests.map (·.command)) = some [[['x']]] := by
  have hp : AllPass docCont [runCont] := allPass_of_allPassB (by decide +kernel)
  have hp0 : AllPass docCont0 [runCont0] := allPass_of_allPassB (by decide +kernel)
  exact ⟨hp, fun f => (updateDocument_allPass hp f ctrl).trans (by decide +kernel),
    fun f => (updateDocument_allPass hp0 f ctrl).trans (by decide +kernel), by decide +kernel⟩

/-- What is true of every passing document: if it is written at all, the text written is the
re-rendering of the document from its own lines (`passText`: command, expectation lines as written,
exit code) – it does not depend on the outputs –, and every result is `Ok`. -/
theorem C10_run_passing_rerendered (isOther : Char → Bool) (content : List Char) (runs : List TestRun.Ran)
    (hp : AllPass content runs) (text : List Char) (results : List Gen.UpdResult)
    (h : updateDocument isOther content runs = .updated text results) :
    ∃ tests, docTests content = some tests ∧
      generateUpdate [Gen.language] content (tests.map passText) = .ok text ∧
      results = tests.map (fun _ => .ok) := by
  obtain ⟨tests, ht, hl, hpass⟩ := hp
  rw [updateDocument_of_docTests isOther content runs tests ht] at h
  obtain ⟨_, _, _, os, hj, hres, hg, _⟩ := updateTests_updated h
  rw [judgeAll_passes isOther tests runs hl hpass] at hj
  cases hj
  exact ⟨tests, ht, by simpa [List.map_map, Function.comp_def] using hg,
    by simpa [List.map_map, Function.comp_def] using hres⟩

/-- **Passing documents stay untouched** – under the decidable guard `Settled`: the document is
written the way `update` writes passing tests. -/
theorem C10_run_passing_untouched_partial (isOther : Char → Bool) (content : List Char) (runs : List TestRun.Ran)
    (hp : AllPass content runs) (hs : Settled content) :
    ∃ rs, updateDocument isOther content runs = .unchanged rs := by
  obtain ⟨tests, ht, hl, hpass⟩ := hp
  unfold Settled at hs
  simp only [ht] at hs
  have hgen : generateUpdate [Gen.language] content (tests.map passText) = .ok content := by
    have := hs.2
    split at this
    · rename_i t ht'; rw [ht', this]
    · exact this.elim
  rw [updateDocument_of_docTests isOther content runs tests ht]
  exact updateTests_unchanged_of hl (judgeAll_passes isOther tests runs hl hpass) (by simpa [List.map_map, Function.comp_def] using hgen)

/-- … and the same about the bytes of the file. -/
theorem C10_run_passing_untouched_bytes_partial (isOther : Char → Bool) (bytes : List UInt8) (content : List Char)
    (runs : List TestRun.Ran) (hread : TestRun.readFile bytes = .ok content)
    (hp : AllPass content runs) (hs : Settled content) :
    ∃ rs, updateDocumentBytes isOther bytes runs = .unchanged rs := by
  rw [updateDocumentBytes_of_read isOther bytes runs content hread]
  exact C10_run_passing_untouched_partial isOther content runs hp hs

/-- the guards hold for the witness document with its final line feed; they fail without it -/
example : AllPass docLf [runA] ∧ Settled docLf ∧ ¬ Settled docNoLf := ⟨allPass_lf, settled_lf, noLf_not_settled⟩
example (isOther : Char → Bool) : ∃ rs, updateDocument isOther docLf [runA] = .unchanged rs :=
  C10_run_passing_untouched_partial isOther docLf [runA] allPass_lf settled_lf

/-! ### U2: lines outside scrut blocks, block structure -/

/-- Everything outside scrut blocks is written back line by line, in order; every scrut block is
replaced by one block (`Rewritten`, with the texts `docGens` of the judged tests). -/
theorem C10_run_outside_preserved (isOther : Char → Bool) (content : List Char) (runs : List TestRun.Ran)
    (text : List Char) (results : List Gen.UpdResult)
    (h : updateDocument isOther content runs = .updated text results) :
    ∃ gens, docGens isOther content runs = some gens ∧
      Rewritten [Gen.language] gens false 0 (splitLines content) text := by
  obtain ⟨tests, os, hu⟩ := updated_spec h
  exact ⟨_, hu.gens_eq, generateUpdate_rewritten _ content _ hu.gens_ne text hu.written⟩

/-- A document that `update` writes has no unterminated front-matter: the front-matter is recognised only in
front of the first content and an unterminated one extends to the end of the document, so there is no test
behind it and the document is skipped ("no testcases").  The open finding
`C10:front-matter-unterminated-gains-delimiter` is about `generate_update` as a library function; the command
`scrut update` cannot reach it.  The guard `FrontClosed` of the theorems below is therefore dropped. -/
theorem C10_run_front_closed (isOther : Char → Bool) (content : List Char) (runs : List TestRun.Ran)
    (text : List Char) (results : List Gen.UpdResult)
    (h : updateDocument isOther content runs = .updated text results) : FrontClosed content := by
  obtain ⟨tests, os, hu⟩ := updated_spec h
  exact hu.front

/-- The strict reading for documents whose front-matter is closed (every document that is written:
`C10_run_front_closed`). -/
theorem C10_run_outside_preserved_partial (isOther : Char → Bool) (content : List Char) (runs : List TestRun.Ran)
    (text : List Char) (results : List Gen.UpdResult)
    (h : updateDocument isOther content runs = .updated text results) (hf : FrontClosed content) :
    ∃ gens, docGens isOther content runs = some gens ∧
      Rewritten [Gen.language] gens true 0 (splitLines content) text := by
  obtain ⟨tests, os, hu⟩ := updated_spec h
  exact ⟨_, hu.gens_eq, generateUpdate_rewritten_strict _ content _ hu.gens_ne text hu.written _
    (tokenize_docToks content) hf⟩

/-- The written document is tokenized into the same tokens in the same order (number and order of
blocks, language, configuration as written, comment lines); the code lines of a rewritten block are
the lines of the text of its outcome.  The guards `LangOK` and `GenOK` of `C10_same_commands` are
discharged. -/
theorem C10_run_same_tokens (isOther : Char → Bool) (content : List Char) (runs : List TestRun.Ran)
    (text : List Char) (results : List Gen.UpdResult)
    (h : updateDocument isOther content runs = .updated text results)
    (hcr : NoStrayCR content) :
    ∃ gens, docGens isOther content runs = some gens ∧ Reread gens 0 (docToks content) (docToks text) := by
  obtain ⟨tests, os, hu⟩ := updated_spec h
  exact ⟨_, hu.gens_eq, (hu.reread hcr).1⟩

/-! ### U3: same commands

FALSE without guard (the full-strength statement):

    theorem C10_run_same_commands … (h : updateDocument isOther content runs = .updated text results)
        (hp : parseMarkdown parseEnv content = .ok p) (hp' : parseMarkdown parseEnv text = .ok p') :
        p'.tests.map (·.shellExpression) = p.tests.map (·.shellExpression)
-/

/-- DEVIATION, the one left (root cause of the open finding `C10:stray-carriage-return-dropped`): the command
line `$ x␍␍⏎` is the command `x␍` (`str::lines()` strips one carriage return); the passing test is written
back as `$ x␍⏎`, which reads as the command `x`.  The document violates the guard `NoStrayCR`. -/
theorem C10_run_same_commands_fails_on_witness :
    (∀ isOther, updateDocument isOther docCrCmd [runA] = .updated docCrCmdOut [.ok]) ∧
    (parseMarkdown TestRun.parseEnv docCrCmd).toOption.map (fun p => p.tests.map (·.shellExpression)) = some [['x', '\r']] ∧
    (parseMarkdown TestRun.parseEnv docCrCmdOut).toOption.map (fun p => p.tests.map (·.shellExpression)) = some [['x']] ∧
    ¬ NoStrayCR docCrCmd := by
  have hp : AllPass docCrCmd [runA] := allPass_of_allPassB (by decide +kernel)
  exact ⟨fun f => (updateDocument_allPass hp f ctrl).trans (by decide +kernel), by decide +kernel, by decide +kernel,
    by decide +kernel⟩

/-- Repaired by fix 961e96b (finding `C10:trailing-empty-continuation-dropped`: `$ x` / `> ` was written back as
`$ x`): the command `x⏎` keeps its empty continuation line. -/
theorem C10_run_trailing_continuation_kept :
    updateDocument ctrl docTrail [runA] = .updated docTrailOut [.malformed [.unmatched 0, .unexpected [0]]] ∧
    (parseMarkdown TestRun.parseEnv docTrail).toOption.map (fun p => p.tests.map (·.shellExpression)) = some [['x', '\n']] ∧
    (parseMarkdown TestRun.parseEnv docTrailOut).toOption.map (fun p => p.tests.map (·.shellExpression)) = some [['x', '\n']] := by
  decide +kernel

/-- **Same commands, at the level of the parser**: if the written document parses, it parses to
the same command lines (hence the same shell expressions), test by test – for documents without
stray carriage return; every command (also the empty continuation line at its
end), every expectation line (also `> x`).  Missing for the full statement: the guard `NoStrayCR` cannot be
dropped (`C10_run_same_commands_fails_on_witness`).  (No guard on the front-matter is needed:
`C10_run_front_closed`.) -/
theorem C10_run_same_commands_partial (isOther : Char → Bool) (hC : AsciiContract isOther) (content : List Char)
    (runs : List TestRun.Ran) (text : List Char) (results : List Gen.UpdResult)
    (h : updateDocument isOther content runs = .updated text results)
    (hcr : NoStrayCR content) (p p' : Parsed)
    (hp : parseMarkdown TestRun.parseEnv content = .ok p) (hp' : parseMarkdown TestRun.parseEnv text = .ok p') :
    p'.tests.map (·.command) = p.tests.map (·.command) :=
  run_same_commands_parsed hC h hcr hp hp'

/-- the guards hold for an ordinary document (title, blank line, one block, text behind it), whose
written form parses -/
example : updateDocument ctrl docOrd [runNew] = .updated docOrdOut [.malformed [.unmatched 0, .unexpected [0]]] ∧
    AsciiContract ctrl ∧ NoStrayCR docOrd ∧
    parseMarkdown TestRun.parseEnv docOrd = .ok parsedOrd ∧
    (parseMarkdown TestRun.parseEnv docOrdOut).toOption.isSome = true :=
  ⟨ord_written, ctrl_contract, ord_noStrayCR, parse_ord, by decide +kernel⟩

/-- … and for the document whose command ends in an empty continuation line -/
example : NoStrayCR docTrail ∧
    (parseMarkdown TestRun.parseEnv docTrail).toOption.isSome = true ∧
    (parseMarkdown TestRun.parseEnv docTrailOut).toOption.isSome = true := by decide +kernel

/-! ### the two repairs of `generate_testcase`, for all inputs -/

/-- **The shell expression round trip** (fix 961e96b): for EVERY command text `cmd` -- the empty one, one
ending in line feeds, any characters -- `generate_testcase_expression` does not panic and returns the text of
the lines `exprLines cmd` (`$ ` + the first piece of `split('\n')`, `> ` + every further piece; none holds a
line feed); the line parser between two tests (`Clean s`), fed these lines, takes them all as command lines and
holds the command whose `join("\n")` -- the `shell_expression` -- is exactly `cmd`, no expectation and no exit
code.  (Through `str::lines()` of a whole document a piece ending in a carriage return loses it: the guard
`NoStrayCR` / `hcr` of the document-level theorems.) -/
theorem C10_expression_roundtrip (expOk : Line → Bool) (s : LineParser.State Cfg) (hc : Markdown.Clean s)
    (cmd : List Char) (k : Nat) :
    Gen.expression cmd = some (unlines (exprLines cmd)) ∧ (∀ l ∈ exprLines cmd, '\n' ∉ l) ∧
    ∃ s', addAll expOk s (number k (exprLines cmd)) = .ok s' ∧
      s'.command = Gen.splitNl cmd [] ∧ LineParser.joinNl s'.command = cmd ∧
      s'.expectations = [] ∧ s'.exitCode = none ∧ s'.inCommand = true ∧ s'.testcases = s.testcases :=
  ⟨expression_exprLines cmd, exprLines_no_nl cmd, expression_roundtrip expOk s hc cmd k⟩

/-- **The exit code line goes first where it has to** (fix cfef990), `generate_testcase` for a test with
expectations, any command, any expectations, any diff, any exit code:
* `Ok`: if the first expectation text starts with `> ` (`contHead`), the line directly behind the command
  lines `ex` is `[code]` (also `[0]`), then the texts; otherwise the texts, then `[code]` iff `code ≠ 0`;
* `MalformedOutput(d)`: the same with `contFirst`: the first entry written is a RETAINED text that starts
  with `> ` (a generated first line never does: C09's `C09_line_roundtrip`). -/
theorem C10_exit_code_first (m : Esc.Mode) (isOther : Char → Bool) (cmd : List Char) (origs : List (List Char))
    (lines : List (List UInt8)) (d : List Diff.DL) (code : Int) :
    ∃ ex, Gen.expression cmd = some ex ∧
    Gen.generateTestcaseUpd m isOther cmd origs .ok lines code =
      some (if GenLemmas.contHead origs then ex ++ Gen.exitCodeLine code ++ origs.flatMap Gen.assureNewlineC
            else ex ++ origs.flatMap Gen.assureNewlineC ++ Gen.exitCodeOpt code) ∧
    Gen.generateTestcaseUpd m isOther cmd origs (.malformed d) lines code =
      (GenLemmas.slotsText m isOther origs lines (GenLemmas.slots d)).map (fun b =>
        if GenLemmas.contFirst origs (GenLemmas.slots d) then ex ++ Gen.exitCodeLine code ++ b
        else ex ++ b ++ Gen.exitCodeOpt code) := by
  obtain ⟨ex, hex⟩ := GenLemmas.expression_isSome cmd
  exact ⟨ex, hex, GenLemmas.generateTestcaseUpd_ok_text m isOther cmd ex origs lines code hex,
    GenLemmas.generateTestcaseUpd_malformed_text m isOther cmd ex origs lines d code hex⟩

/-- … and in the integrated model the placement is that of a passing test whatever the result: the text of an
outcome is the command lines, then `afterLines newOrigs code` = `[code]` in front iff the first written text
starts with `> `, for the written expectation texts `newOrigs` (retained ones and generated ones). -/
theorem C10_run_outcome_lines (isOther : Char → Bool) (hC : AsciiContract isOther) (u : UTest) (r : TestRun.Ran)
    (res : Gen.UpdResult) (g : List Char) (h : outcomeText isOther u r = .ok (res, some g))
    (horigs : ∀ o ∈ u.origs, '\n' ∉ o) :
    ∃ newOrigs, g = unlines (exprLines u.cmd ++ afterLines newOrigs r.code) ∧
      ∀ o ∈ newOrigs, o ∈ u.origs ∨ ∃ l, Newline.IsLine l ∧ Gen.expectationLine .unicode isOther l = some o := by
  obtain ⟨newOrigs, hw⟩ := outcome_full hC h
  obtain ⟨ex, hex, hg⟩ := hw.text
  rw [expression_exprLines] at hex
  cases hex
  refine ⟨newOrigs, ?_, hw.origin⟩
  rw [hg, withExitCode_unlines newOrigs r.code, unlines_append]
  intro o ho
  exact (hw.origin_ok hC ho).elim (horigs o) (·.1)

/-- **The written block keeps its command**: whatever the expectation texts `newOrigs` written behind
the command lines are -- also `> x` -- and whatever the exit code, if the line parser (between two tests)
accepts the lines `exprLines cmd ++ afterLines newOrigs code`, the command it reads is `cmd`, and the
lines behind the command lines are read as expectations and exit code: none is taken for a continuation. -/
theorem C10_written_block_command (expOk : Line → Bool) (s s' : LineParser.State Cfg) (hc : Markdown.Clean s)
    (cmd : List Char) (newOrigs : List (List Char)) (code : Int) (k : Nat)
    (h : addAll expOk s (number k (exprLines cmd ++ afterLines newOrigs code)) = .ok s') :
    s'.command = Gen.splitNl cmd [] ∧ LineParser.joinNl s'.command = cmd ∧
      s'.expectations = expLines (afterLines newOrigs code) ∧
      s'.exitCode = (exitCodes (afterLines newOrigs code)).head? :=
  written_block_command expOk s s' hc cmd newOrigs code k h

/-- non-vacuity: the state of a fresh line parser is `Clean`; the lines of the empty command, of `x⏎`; the lines
behind the command for the texts `> a` (exit code 0 and 1), `a` (exit code 0 and 1) and none; the line parser
accepts `$ x` / `[0]` / `> a` and reads the command `x` -/
example : Markdown.Clean (LineParser.State.new false : LineParser.State Cfg) := ⟨rfl, rfl, rfl, rfl, rfl⟩
example : exprLines [] = [['$', ' ']] ∧ exprLines ['x', '\n'] = [['$', ' ', 'x'], ['>', ' ']] ∧
    afterLines [['>', ' ', 'a']] 0 = [['[', '0', ']'], ['>', ' ', 'a']] ∧
    afterLines [['>', ' ', 'a']] 1 = [['[', '1', ']'], ['>', ' ', 'a']] ∧
    afterLines [['a']] 0 = [['a']] ∧ afterLines [['a']] 1 = [['a'], ['[', '1', ']']] ∧ afterLines [] 0 = [] := by decide +kernel
/-- the hypotheses of `C10_run_outcome_lines` hold for the test `$ x` / `[1]` / `> a` (the expectation texts of a
test read from a document are lines of the document) on its passing run; its text -/
example : outcomeText ctrl utCont runCont = .ok (.ok, some ("$ x\n[1]\n> a\n".toList)) ∧
    (∀ o ∈ utCont.origs, '\n' ∉ o) := by
  decide +kernel
example : ∃ s', addAll (fun _ => true) (LineParser.State.new false) (number 0 (exprLines ['x'] ++ afterLines [['>', ' ', 'a']] 0)) = .ok s' ∧
    s'.command = [['x']] ∧ s'.expectations = [['>', ' ', 'a']] ∧ s'.exitCode = some 0 := ⟨_, rfl, rfl, rfl, rfl⟩

/-! ### U4: idempotence of the composition

The full-strength statement (no guard) is false where the open findings
`C10:not-idempotent-stray-carriage-return`, `C10:not-idempotent-retained-quantified-expectations` and the
stray-carriage-return witness above say so (`C10:config-leading-white-space-changes-configuration` is repaired:
fix 15b47d2). -/

/-- The second update writes nothing, provided it generates the same texts as the first
(`C10_idempotent` through the composition; the count of tests is proved to be the same). -/
theorem C10_run_idempotent_same_texts_partial (isOther : Char → Bool) (content : List Char)
    (runs : List TestRun.Ran) (text : List Char) (results : List Gen.UpdResult)
    (h : updateDocument isOther content runs = .updated text results)
    (hcr : NoStrayCR content)
    (hsame : docGens isOther text runs = docGens isOther content runs) :
    ∃ rs, updateDocument isOther text runs = .unchanged rs :=
  run_idempotent_of_same_texts h hcr hsame

/-- the hypothesis holds for the ordinary document: the second run generates the text the first wrote -/
example : docGens ctrl docOrdOut [runNew] = docGens ctrl docOrd [runNew] := ord_sameTexts

/-- **`parseFlow` does not see blanks behind the opening brace**: for EVERY text `t` between the braces of a
fence line, the text without its leading spaces and tabs deserializes to the same result (a configuration, an
error, a panic, or "outside the modelled subset"). -/
theorem C10_flow_blanks_skipped (t : List Char) :
    Yaml.parseFlow ('{' :: (Yaml.skipWs t ++ ['}'])) = Yaml.parseFlow ('{' :: (t ++ ['}'])) :=
  Yaml.parseFlow_skipWs t

/-- **The configuration text read back**: the fence line `update` writes for a block (at least three backticks, a
language `LangOK`, the configuration lines `cfg`) is read by the fence recogniser with the configuration text
`writtenCfg cfg`: none if `cfg` holds white space only, otherwise its text without the leading spaces and tabs
(`trim_start_matches([' ', '\t'])`; until fix 15b47d2: `trim_start`, Unicode `White_Space`). -/
theorem C10_config_text_read_back (n : Nat) (hn : 3 ≤ n) (lang : Line) (hl : LangOK lang) (cfg : Numbered) :
    ∃ config', extractCodeBlockStart (backticks n ++ lang ++ configSuffix cfg) = .ok (some (backticks n, lang, config')) ∧
      ∀ j, (cfgLines j config').map (·.2) = writtenCfg cfg := by
  obtain ⟨c, h1, _, h3⟩ := fence_line_reread_cfg n hn lang hl cfg
  exact ⟨c, by rw [extractCodeBlockStart_eq, h1], h3⟩

/-- … and the test configuration parsed from it is the one parsed from the original text (the spaces and tabs
dropped are what YAML skips behind the brace), provided the original text is read at all (no YAML error).
(Until fix 15b47d2 the guard was "the white space dropped is spaces and tabs".)  The hypothesis matters for a
text of Unicode white space only, which is written back as no configuration: see the example below; where the
text is not white space only it is not needed (`inlineCfg_written_nonwhite`). -/
theorem C10_config_read_back (cfg cfg' : Numbered) (hw : cfg'.map (·.2) = writtenCfg cfg)
    (hr : (TestRun.inlineCfg (some (cfgOf cfg))).isSome = true) :
    TestRun.inlineCfg (some (cfgOf cfg')) = TestRun.inlineCfg (some (cfgOf cfg)) :=
  inlineCfg_written hw hr

/-- the hypothesis holds for `{<U+00A0>output_stream: stderr}`, whose text is read back with the no-break space … -/
example : writtenCfg [(0, cfgNbsp)] = [cfgNbsp] ∧ (TestRun.inlineCfg (some (cfgOf [(0, cfgNbsp)]))).isSome = true := by
  decide +kernel

/-- … and cannot be dropped: `{<U+00A0>}` is a YAML error and is written back as no configuration, which is read -/
example : writtenCfg [(0, ['\u00a0'])] = [] ∧ TestRun.inlineCfg (some (cfgOf [(0, ['\u00a0'])])) = none ∧
    TestRun.inlineCfg (some (cfgOf [])) = some {} := inlineCfg_white_unread

/-- **The written document parses** (the hypothesis "IF the written document parses" of
`C10_run_same_commands_partial`, discharged under the guards of `C10_run_idempotent_partial`). -/
theorem C10_run_written_parses_partial (isOther : Char → Bool) (hC : AsciiContract isOther) (content : List Char)
    (runs : List TestRun.Ran) (text : List Char) (results : List Gen.UpdResult)
    (h : updateDocument isOther content runs = .updated text results)
    (hcr : NoStrayCR content) (p : Parsed)
    (hp : parseMarkdown TestRun.parseEnv content = .ok p)
    (hcodes : ∀ r ∈ runs, 0 ≤ r.code ∧ r.code ≤ 255)
    (hq : QuantFree content results) :
    ∃ p', parseMarkdown TestRun.parseEnv text = .ok p' ∧ p'.tests.map (·.command) = p.tests.map (·.command) := by
  obtain ⟨tests, os, hu⟩ := updated_spec h
  obtain ⟨p', hp'⟩ := hu.written_parses hC hcr (fun r hr => ⟨(hcodes r hr).1, Int.le_trans (hcodes r hr).2 (by decide)⟩) hq
  exact ⟨p', hp', run_same_commands_parsed hC h hcr hp hp'⟩

/-- REGRESSION (finding `C10:config-leading-white-space-changes-configuration`, repaired by fix 15b47d2):
the document ```` ```scrut {<U+00A0>output_stream: stderr} ```` /
`$ x` / `a` PASSES on the run that prints `a` to STDOUT and `b` to STDERR (the key `<U+00A0>output_stream` is
unknown and ignored: STDOUT is validated).  The configuration suffix `update` writes for it keeps the no-break
space (spaces and tabs in front of it are dropped), so the document is its own update: nothing is written.  With
a blank in front of the no-break space the document is written, as the document without it: the configuration read back
is the same (STDOUT), and the second update writes nothing.  On a run that prints `b` to STDOUT the test fails
and is rewritten to `b` under the SAME fence line, read with the same configuration, and the second update
writes nothing.  (Until the fix: written as `{output_stream: stderr}`, read with ANOTHER configuration, failed on
the same run and was written a second time; `configSuffixOld` keeps the record.) -/
theorem C10_run_config_white_space_kept :
    AllPass docNbsp [runAB] ∧
    configSuffix [(0, cfgNbsp)] = ' ' :: '{' :: (cfgNbsp ++ ['}']) ∧
    configSuffix [(0, ' ' :: '\t' :: cfgNbsp)] = ' ' :: '{' :: (cfgNbsp ++ ['}']) ∧
    (∀ isOther, updateDocument isOther docNbsp [runAB] = .unchanged [.ok]) ∧
    (∀ isOther, updateDocument isOther docSpNbsp [runAB] = .updated docNbsp [.ok]) ∧
    (docTests docSpNbsp).map (·.map (·.test.cfg.outputStream)) = some [some .stdout] ∧
    (docTests docNbsp).map (·.map (·.test.cfg.outputStream)) = some [some .stdout] ∧
    updateDocument ctrl docNbsp [runBA] = .updated docNbspB [.malformed [.unmatched 0, .unexpected [0]]] ∧
    (docTests docNbspB).map (·.map (·.test.cfg.outputStream)) = some [some .stdout] ∧
    (∀ isOther, updateDocument isOther docNbspB [runBA] = .unchanged [.ok]) := by
  have hp : AllPass docNbsp [runAB] := allPass_of_allPassB (by decide +kernel)
  have hpB : AllPass docNbspB [runBA] := allPass_of_allPassB (by decide +kernel)
  exact ⟨hp, by decide +kernel, by decide +kernel,
    fun f => (updateDocument_allPass hp f ctrl).trans (by decide +kernel),
    fun f => (updateDocument_allPass allPass_spNbsp f ctrl).trans (by decide +kernel),
    by decide +kernel, by decide +kernel, nbsp_rewritten, by decide +kernel,
    fun f => (updateDocument_allPass hpB f ctrl).trans (by decide +kernel)⟩

/-- the record of the behaviour until fix 15b47d2: the suffix written with `trim_start()` lost the no-break
space, and the document written with it is read with ANOTHER configuration (STDERR), fails on the run the original
passes and is written a second time -/
theorem C10_run_config_white_space_dropped_before_fix :
    configSuffixOld [(0, cfgNbsp)] = ' ' :: '{' :: (cfgNbsp.drop 1 ++ ['}']) ∧
    (docTests docNbspOut).map (·.map (·.test.cfg.outputStream)) = some [some .stderr] ∧
    updateDocument ctrl docNbspOut [runAB] = .updated docNbspOut2 [.malformed [.unmatched 0, .unexpected [0]]] ∧
    docNbspOut2 ≠ docNbspOut := by
  decide +kernel

/-- **Idempotence**: updating the updated document with the same runs writes nothing – under the decidable
guards named in the header, all of them about the ORIGINAL document and the runs: no stray carriage return,
exit codes 0..255, no retained quantified expectation.  (Nothing is assumed of the written document, and no guard
on the front-matter is needed: `C10_run_front_closed`.) -/
theorem C10_run_idempotent_partial (isOther : Char → Bool) (hC : AsciiContract isOther) (content : List Char)
    (runs : List TestRun.Ran) (text : List Char) (results : List Gen.UpdResult)
    (h : updateDocument isOther content runs = .updated text results)
    (hcr : NoStrayCR content) (p : Parsed)
    (hp : parseMarkdown TestRun.parseEnv content = .ok p)
    (hcodes : ∀ r ∈ runs, 0 ≤ r.code ∧ r.code ≤ 255)
    (hq : QuantFree content results) :
    ∃ rs, updateDocument isOther text runs = .unchanged rs :=
  run_idempotent hC h hcr (fun r hr => ⟨(hcodes r hr).1, Int.le_trans (hcodes r hr).2 (by decide)⟩) hq

/-- every hypothesis holds for the ordinary document, so its second update writes nothing -/
example : ∃ rs, updateDocument ctrl docOrdOut [runNew] = .unchanged rs :=
  C10_run_idempotent_partial ctrl ctrl_contract docOrd [runNew] docOrdOut _ ord_written ord_noStrayCR
    parsedOrd parse_ord ord_codes ord_quantFree

/-- … and for a document whose inline configuration starts with a space, which `update` drops
(```` ```scrut { output_stream: stderr} ````, `docSp`, is written ```` ```scrut {output_stream: stderr} ````, which is the
text `docNbspOut2`: `sp_written`): the second update writes nothing -/
example : ∃ rs, updateDocument ctrl docNbspOut2 [runAB] = .unchanged rs := by
  cases hp : parseMarkdown TestRun.parseEnv docSp with
  | error e => have := parse_sp; rw [hp] at this; cases this
  | ok p =>
    exact C10_run_idempotent_partial ctrl ctrl_contract docSp [runAB] docNbspOut2 _ sp_written sp_noStrayCR
      p hp sp_codes sp_quantFree

/-- … and for the document whose inline configuration starts with a no-break space -/
example : ∃ rs, updateDocument ctrl docNbspB [runBA] = .unchanged rs := by
  cases hp : parseMarkdown TestRun.parseEnv docNbsp with
  | error e => have := parse_nbsp; rw [hp] at this; cases this
  | ok p =>
    exact C10_run_idempotent_partial ctrl ctrl_contract docNbsp [runBA] docNbspB _ nbsp_rewritten nbsp_noStrayCR
      p hp nbsp_codes nbsp_quantFree

end Integrated

end Scrut.Props.C10
