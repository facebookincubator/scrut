import ScrutModel.Lemmas.Grammar
import ScrutModel.Lemmas.Basic
/-!
# C08 — Expectation lines parse per the documented grammar and print back equivalently

Model: `Scrut.Grammar` (`Model/Grammar.lean`). `extract`/`parse` are `ExpectationMaker::extract`/
`parse` with the regex of `RuleRegistry::to_expectation_regex` written out as the string function
it denotes (lazy prefix, suffix group tried at every position, alternation in source order,
capture-count logic incl. the index panic); `toExpressionString` is `Rule::to_expression_string`.
Parameters (`Params`): `isWhite` = the regex crate's `\s` (only `isWhite ' '` is ever assumed),
`make` = `make`+`unmake` of the `escaped`, `glob` and `regex` rules, and the escaper
(`escPrintable`, `hasUnprintable`). All theorems hold for every value of the parameters.

Scope: a line is a text without `'\n'` (callers hand over single lines). What the code does
otherwise is recorded by `C08_newline_out_of_scope` (it panics) and covered by the correspondence.

`Modifier W l p K Q` is the documented grammar, declaratively:
`l = p ++ [w] ++ "(" ++ K ++ Q ++ ")"`, `w` white space, `K` a documented kind name or empty,
`Q` one of `?`, `*`, `+` or empty, not both empty.

Round trip (after fixes 2c946ec and its partial revert): the canonical form of every expectation
reads back as `reread P e` -- `e` itself, except that an `equal` expectation with unprintable
content is deliberately written as `escaped` -- with the same quantifier, exactly when the rule
constructor reproduces the expression from the text it is handed
(`makeRule P (sourceKind P e) (sourceText P e) = some e.expr`, `C08_roundtrip`, `C08_roundtrip_iff`).
That is a contract on the rule constructors and the escaper, parameters here: for `equal` it says
the printable rendering is the text, for `escaped`/`glob` that unescaping inverts escaping
(C04/C11), for `regex` and `no-eol` -- which have no escaped syntax and are written through the
escaper for display -- that the printable rendering is the text (and, `regex`, that making is
idempotent). There is no guard on the shape of the text: `ends_like_modifier` over-approximates the
grammar (`C08_ends_like_modifier_sound`).
`EscapedRule::make` is modelled in two steps (`makeRule`): the Cram-compatibility strip of a
trailing ` (no-eol)` (`stripNoEol`, concrete) and the resolution of escape sequences
(`P.make .escaped`, parameter). Every text written under the `escaped` kind goes through
`guard_tailing_no_eol` (fix c1bf05c), so it never ends in ` (no-eol)` and the strip is the identity
on it (`C08_guard_never_stripped`); for everything written as `escaped` the contract is therefore
the pure escaper contract "resolving the escape sequences of the written text gives the bytes"
(`C08_roundtrip_escaped_iff`; regression example `C08_roundtrip_no_eol_guarded`, the former
witness `a<TAB> (no-eol) (equal)` of class `C08:escaped-no-eol-strip-roundtrip`).
The contract is FALSE today in one known situation (open finding):
* `C08:escaped-pattern-roundtrip`: a `regex` or `no-eol` expression with unprintable characters
  (under `--escaper ascii`: any non-ASCII character) is displayed with escape sequences and read
  back literally -- decidable guard `P.hasUnprintable e.expr = false`
  (`C08_roundtrip_noEol_guarded`), necessity `C08_roundtrip_noEol_iff`, witness `a<TAB> (no-eol)`
  (`C08_roundtrip_fails_on_escaped_pattern_witness`).
-/
namespace Scrut.Props.C08
open Scrut.Grammar

/-- **C08 (total)**: parsing a line never crashes and never reports an unknown kind; it fails only
with the error of a rule constructor, only when the line ends in a modifier naming the `escaped`,
`glob` or `regex` kind, and only because that constructor rejects the expression in front of the
modifier (`makeRule`: for `escaped` after dropping a trailing ` (no-eol)`). (`glob` rejects only
expressions carrying an inner ` (escaped)` marker with a malformed escape: a parameter here,
sampled by the harness.) -/
theorem C08_total (P : Params) (l : List Char) (hl : '\n' ∉ l) :
    (∃ e, parse P l = .ok e) ∨
    (parse P l = .error .makeError ∧ ∃ p K Q kind, Modifier P.isWhite l p K Q ∧
      lookupKind (orEqual K) = some kind ∧ (kind = .escaped ∨ kind = .glob ∨ kind = .regex) ∧
      makeRule P kind p = none) := by
  by_cases h : ∃ p K Q, Modifier P.isWhite l p K Q
  · obtain ⟨p, K, Q, hm⟩ := h
    obtain ⟨kind, hk⟩ := lookup_orEqual hm.kind_ok
    have hp := parse_of_modifier hl hm hk
    cases hmk : makeRule P kind p with
    | some b => left; rw [hmk] at hp; exact ⟨_, hp⟩
    | none =>
      right; rw [hmk] at hp
      exact ⟨hp, p, K, Q, kind, hm, hk, makeRule_none_kind hmk, hmk⟩
  · exact Or.inl ⟨_, parse_of_no_modifier hl h⟩

/-- **C08 (grammar)**: the modifier recognised by the code is exactly the documented one: the
final ` (<kind><quantifier>)`, everything in front of the white-space character verbatim. -/
theorem C08_grammar (W : Char → Bool) (l p K : List Char) (Q : Option Char) (hl : '\n' ∉ l) :
    Modifier W l p K Q ↔ modifierOf W l = some (p, K, Q) :=
  modifier_iff hl

/-- what `extract` returns, by the recognised modifier: expression, kind (none = `equal`), quantifier -/
theorem C08_extract (W : Char → Bool) (l : List Char) (hl : '\n' ∉ l) :
    extract W l = .ok (match modifierOf W l with
      | some (p, K, Q) => (p, orEqual K, Q.toList)
      | none => (l, equalName, [])) :=
  extract_eq hl

/-- a line with a modifier: the named kind (or `equal`), made from the text in front of it, with
`?` optional, `*` optional and repeated, `+` repeated -/
theorem C08_modifier_parse (P : Params) (l p K : List Char) (Q : Option Char) (kind : Kind)
    (hl : '\n' ∉ l) (h : Modifier P.isWhite l p K Q) (hk : lookupKind (orEqual K) = some kind) :
    parse P l = match makeRule P kind p with
      | none => .error .makeError
      | some b => .ok ⟨kind, b, Q.toList == ['*'] || Q.toList == ['?'], Q.toList == ['*'] || Q.toList == ['+']⟩ :=
  parse_of_modifier hl h hk

/-- **C08 (otherwise equal)**: every other line -- also one ending in `()`, `(foo)`, `( )`,
`(glob)` without white space in front -- is an `equal` expectation for the whole line. -/
theorem C08_otherwise_equal (W : Char → Bool) (l : List Char) (hl : '\n' ∉ l)
    (h : ¬ ∃ p K Q, Modifier W l p K Q) : extract W l = .ok (l, equalName, []) :=
  extract_of_no_modifier hl h

theorem C08_otherwise_equal_parse (P : Params) (l : List Char) (hl : '\n' ∉ l)
    (h : ¬ ∃ p K Q, Modifier P.isWhite l p K Q) : parse P l = .ok ⟨.equal, utf8 l, false, false⟩ :=
  parse_of_no_modifier hl h

/-- **C08 (suffix uniqueness)**: a line decomposes in at most one way. -/
theorem C08_modifier_unique (W : Char → Bool) (l p p' K K' : List Char) (Q Q' : Option Char)
    (hl : '\n' ∉ l) (h : Modifier W l p K Q) (h' : Modifier W l p' K' Q') : p = p' ∧ K = K' ∧ Q = Q' := by
  have := ((modifier_iff hl).mp h).symm.trans ((modifier_iff hl).mp h')
  simpa using this

/-- no proper extension to the left of a suffix group is a suffix group (why laziness of `(.*?)`
never matters) -/
theorem C08_suffix_unique (W : Char → Bool) (s x : List Char) (m : List Char × Option Char)
    (h : suffixAt W s = some m) (hx : x ≠ []) : suffixAt W (x ++ s) = none :=
  suffixAt_extend_none h hx

/-- outside the scope: a line feed that is not the white space in front of a final modifier makes
the real `parse` panic (empty capture vector, `captures[0]`) -/
theorem C08_newline_out_of_scope (W : Char → Bool) : extract W ['f', 'o', 'o', '\n'] = .error .crash := by
  simp [extract, captures, scan, suffixAt, idx, bind, Except.bind]

/-- `ends_like_modifier` (the renderer's test) holds for every text the grammar reads as
expression + modifier, for any `\s` class contained in `char::is_whitespace` -/
theorem C08_ends_like_modifier_sound (W S : Char → Bool) (hsub : ∀ c, W c = true → S c = true)
    (t p K : List Char) (Q : Option Char) (h : Modifier W t p K Q) : endsLikeModifier S t = true :=
  endsLike_of_modifier hsub h

/-- what parsing the canonical form gives, for every expectation: the rule made from
`sourceText` under `sourceKind`, with the same quantifier -/
theorem C08_parse_render (P : Params) (hw : P.isWhite ' ' = true)
    (hsub : ∀ c, P.isWhite c = true → P.isSpaceStd c = true) (e : Expectation)
    (hnl : '\n' ∉ sourceText P e) :
    parse P (toExpressionString P e) =
      match makeRule P (sourceKind P e) (sourceText P e) with
      | none => .error .makeError
      | some b => .ok ⟨sourceKind P e, b, e.optional, e.multiline⟩ :=
  parse_render hw hsub hnl

/-- **C08 (round trip)**: for every expectation of every kind, parsing the canonical form gives
the expectation back (kind, expression, quantifier; `equal` with unprintable content as `escaped`),
provided the rule constructor reproduces the expression from the rendered text (`hmk`, the
constructor/escaper contract). No guard on the text's shape. -/
theorem C08_roundtrip (P : Params) (hw : P.isWhite ' ' = true)
    (hsub : ∀ c, P.isWhite c = true → P.isSpaceStd c = true) (e : Expectation)
    (hnl : '\n' ∉ sourceText P e)
    (hmk : makeRule P (sourceKind P e) (sourceText P e) = some e.expr) :
    parse P (toExpressionString P e) = .ok (reread P e) :=
  roundtrip hw hsub hnl hmk

/-- the contract `hmk` is also necessary: where it fails (today: the ` (no-eol)` strip of the
`escaped` constructor, class `C08:escaped-no-eol-strip-roundtrip`) the round trip fails -/
theorem C08_roundtrip_iff (P : Params) (hw : P.isWhite ' ' = true)
    (hsub : ∀ c, P.isWhite c = true → P.isSpaceStd c = true) (e : Expectation)
    (hnl : '\n' ∉ sourceText P e) :
    parse P (toExpressionString P e) = .ok (reread P e) ↔
      makeRule P (sourceKind P e) (sourceText P e) = some e.expr :=
  roundtrip_iff hw hsub hnl

/-- a text that went through `guard_tailing_no_eol` never ends in ` (no-eol)`: the strip of the
`escaped` constructor is the identity on it and the constructor only resolves escape sequences -/
theorem C08_guard_never_stripped (P : Params) (t : List Char) :
    stripSuffix noEolSuffix (guardTailingNoEol t) = none ∧
    stripNoEol (guardTailingNoEol t) = guardTailingNoEol t ∧
    makeRule P .escaped (guardTailingNoEol t) = P.make .escaped (guardTailingNoEol t) :=
  ⟨stripSuffix_guard t, stripNoEol_guard t, makeRule_escaped_guard P t⟩

/-- everything written under the `escaped` kind (escaped expectations, `equal` ones with
unprintable content) reads back exactly when resolving the escape sequences of the written text
gives the bytes back -- the escaper's contract alone, the ` (no-eol)` strip plays no role -/
theorem C08_roundtrip_escaped_iff (P : Params) (hw : P.isWhite ' ' = true)
    (hsub : ∀ c, P.isWhite c = true → P.isSpaceStd c = true) (e : Expectation)
    (hnl : '\n' ∉ sourceText P e) (hk : sourceKind P e = .escaped) :
    parse P (toExpressionString P e) = .ok (reread P e) ↔
      P.make .escaped (sourceText P e) = some e.expr :=
  roundtrip_escaped_iff hw hsub hnl hk

/-- regression example (the witness of the defect repaired by c1bf05c): the `equal` expectation
`a<TAB> (no-eol)`, displayed `a\\t (no-eol)`, is written `a\\t\\x20(no-eol) (escaped)`; reading that
strips nothing, so it comes back as the `escaped` expectation for the bytes the escape
sequences resolve to -/
theorem C08_roundtrip_no_eol_guarded (P : Params) (hw : P.isWhite ' ' = true)
    (hsub : ∀ c, P.isWhite c = true → P.isSpaceStd c = true) (b : List UInt8)
    (hu : P.hasUnprintable b = true)
    (ht : P.escPrintable b = ['a', '\\', 't', ' ', '(', 'n', 'o', '-', 'e', 'o', 'l', ')'])
    (hmk : P.make .escaped ['a', '\\', 't', '\\', 'x', '2', '0', '(', 'n', 'o', '-', 'e', 'o', 'l', ')'] = some b) :
    toExpressionString P ⟨.equal, b, false, false⟩ =
      ['a', '\\', 't', '\\', 'x', '2', '0', '(', 'n', 'o', '-', 'e', 'o', 'l', ')',
       ' ', '(', 'e', 's', 'c', 'a', 'p', 'e', 'd', ')'] ∧
    parse P (toExpressionString P ⟨.equal, b, false, false⟩) = .ok ⟨.escaped, b, false, false⟩ := by
  have hg : guardTailingNoEol ['a', '\\', 't', ' ', '(', 'n', 'o', '-', 'e', 'o', 'l', ')'] =
      ['a', '\\', 't', '\\', 'x', '2', '0', '(', 'n', 'o', '-', 'e', 'o', 'l', ')'] := by decide +kernel
  have hst : sourceText P ⟨.equal, b, false, false⟩ =
      ['a', '\\', 't', '\\', 'x', '2', '0', '(', 'n', 'o', '-', 'e', 'o', 'l', ')'] := by
    simp [sourceText, hu, ht, hg]
  have hsk : sourceKind P ⟨.equal, b, false, false⟩ = .escaped := by simp [sourceKind, hu]
  constructor
  · rw [toExpressionString_eq P _ (by simp [hu]), hst, hsk]; rfl
  · rw [(roundtrip_escaped_iff hw hsub (by rw [hst]; decide +kernel) hsk).mpr (by rw [hst]; exact hmk)]
    simp [reread, hsk]

/-- `no-eol` keeps its text, so its round trip holds exactly when the displayed text is the text -/
theorem C08_roundtrip_noEol_iff (P : Params) (hw : P.isWhite ' ' = true)
    (hsub : ∀ c, P.isWhite c = true → P.isSpaceStd c = true) (b : List UInt8) (o m : Bool)
    (hnl : '\n' ∉ P.escPrintable b) :
    parse P (toExpressionString P ⟨.noEol, b, o, m⟩) = .ok ⟨.noEol, b, o, m⟩ ↔
      utf8 (P.escPrintable b) = b :=
  roundtrip_noEol_iff hw hsub hnl

/-- under the decidable guard "nothing unprintable" and the escaper's contract (printable bytes are
displayed as they are) a `no-eol` expectation reads back -/
theorem C08_roundtrip_noEol_guarded (P : Params) (hw : P.isWhite ' ' = true)
    (hsub : ∀ c, P.isWhite c = true → P.isSpaceStd c = true) (b : List UInt8) (o m : Bool)
    (hnl : '\n' ∉ P.escPrintable b) (hguard : P.hasUnprintable b = false)
    (hesc : P.hasUnprintable b = false → utf8 (P.escPrintable b) = b) :
    parse P (toExpressionString P ⟨.noEol, b, o, m⟩) = .ok ⟨.noEol, b, o, m⟩ :=
  (roundtrip_noEol_iff hw hsub hnl).mpr (hesc hguard)

/-- the guard is needed (open finding `C08:escaped-pattern-roundtrip`): the `no-eol` expectation
`a<TAB>` is displayed `a\\t (no-eol)`, which reads back as the four characters `a\\t` -/
theorem C08_roundtrip_fails_on_escaped_pattern_witness (P : Params) (hw : P.isWhite ' ' = true)
    (hsub : ∀ c, P.isWhite c = true → P.isSpaceStd c = true)
    (ht : P.escPrintable [0x61, 0x09] = ['a', '\\', 't']) :
    parse P (toExpressionString P ⟨.noEol, [0x61, 0x09], false, false⟩) =
      .ok ⟨.noEol, [0x61, 0x5c, 0x74], false, false⟩ ∧
    parse P (toExpressionString P ⟨.noEol, [0x61, 0x09], false, false⟩) ≠
      .ok ⟨.noEol, [0x61, 0x09], false, false⟩ := by
  have h := parse_render hw hsub (e := ⟨.noEol, [0x61, 0x09], false, false⟩) (by simp [sourceText, ht])
  simp only [sourceKind, sourceText, ht, makeRule,
    show utf8 ['a', '\\', 't'] = [0x61, 0x5c, 0x74] by decide +kernel] at h
  have h' : parse P (toExpressionString P ⟨.noEol, [0x61, 0x09], false, false⟩) =
      .ok ⟨.noEol, [0x61, 0x5c, 0x74], false, false⟩ := by simpa using h
  rw [h']
  exact ⟨rfl, by decide +kernel⟩

/-- `reread` is the identity except for `equal` with unprintable content -/
theorem C08_reread_eq (P : Params) (e : Expectation)
    (h : e.kind = .equal → P.hasUnprintable e.expr = false) : reread P e = e :=
  reread_eq h

/-- consequence for matching, for any rule semantics that is a function of kind and expression -/
theorem C08_roundtrip_matches (P : Params) (hw : P.isWhite ' ' = true)
    (hsub : ∀ c, P.isWhite c = true → P.isSpaceStd c = true) (e : Expectation)
    (hnl : '\n' ∉ sourceText P e)
    (hmk : makeRule P (sourceKind P e) (sourceText P e) = some e.expr)
    (hu : e.kind = .equal → P.hasUnprintable e.expr = false)
    (ruleMatches : Kind → List UInt8 → List UInt8 → Bool) :
    ∃ e', parse P (toExpressionString P e) = .ok e' ∧ e'.optional = e.optional ∧
      e'.multiline = e.multiline ∧ ∀ line, e'.matches ruleMatches line = e.matches ruleMatches line :=
  ⟨e, by rw [roundtrip hw hsub hnl hmk, reread_eq hu], rfl, rfl, fun _ => rfl⟩

/-- regression example (the witness of the defect repaired by 2c946ec): `foo (glob) (equal)`
parses to the `equal` expectation `foo (glob)`; it is now written `foo (glob) (equal)` and reads back -/
theorem C08_roundtrip_equal_modifier_shaped (P : Params) (hw : P.isWhite ' ' = true)
    (hsub : ∀ c, P.isWhite c = true → P.isSpaceStd c = true) (b : List UInt8)
    (hu : P.hasUnprintable b = false)
    (ht : P.escPrintable b = ['f', 'o', 'o', ' ', '(', 'g', 'l', 'o', 'b', ')'])
    (hb : utf8 ['f', 'o', 'o', ' ', '(', 'g', 'l', 'o', 'b', ')'] = b) :
    toExpressionString P ⟨.equal, b, false, false⟩ =
      ['f', 'o', 'o', ' ', '(', 'g', 'l', 'o', 'b', ')', ' ', '(', 'e', 'q', 'u', 'a', 'l', ')'] ∧
    parse P (toExpressionString P ⟨.equal, b, false, false⟩) = .ok ⟨.equal, b, false, false⟩ := by
  have he : endsLikeModifier P.isSpaceStd ['f', 'o', 'o', ' ', '(', 'g', 'l', 'o', 'b', ')'] = true :=
    endsLike_of_modifier (p := ['f', 'o', 'o']) (K := ['g', 'l', 'o', 'b']) (Q := none) hsub
      ⟨' ', hw, Or.inr (by decide +kernel), by simp, by simp, by simp⟩
  constructor
  · simp [toExpressionString, hu, ht, he, quantStr, quantOpt, Kind.name]
  · have := roundtrip hw hsub (e := ⟨.equal, b, false, false⟩) (by simp [sourceText, ht, hu])
      (by simp [sourceKind, sourceText, hu, ht, makeRule, hb])
    rw [this, reread_eq (fun _ => hu)]

/-! ### non-vacuity -/

/-- a parameter instance: only the blank is white, every construction keeps the text, nothing needs escaping -/
def P0 : Params :=
  { isWhite := fun c => c == ' ', make := fun _ t => some (utf8 t),
    escPrintable := fun _ => ['f', 'o', 'o'], hasUnprintable := fun _ => false,
    isSpaceStd := fun c => c == ' ' }

example : Modifier P0.isWhite ['f', 'o', 'o', ' ', '(', 'g', 'l', '?', ')'] ['f', 'o', 'o'] ['g', 'l'] (some '?') :=
  ⟨' ', by decide, Or.inr (by decide), by simp; decide, by simp, by simp⟩

example : ¬ ∃ p K Q, Modifier P0.isWhite ['f', 'o', 'o', ' ', '(', ')'] p K Q := by
  rintro ⟨p, K, Q, h⟩
  have hn : modifierOf P0.isWhite ['f', 'o', 'o', ' ', '(', ')'] = none := by decide +kernel
  rw [(modifier_iff (by decide)).mp h] at hn
  cases hn

/-- the hypotheses of `C08_roundtrip` are satisfiable for every kind and quantifier -/
example (k : Kind) (o m : Bool) :
    let e : Expectation := ⟨k, utf8 ['f', 'o', 'o'], o, m⟩
    P0.isWhite ' ' = true ∧ (∀ c, P0.isWhite c = true → P0.isSpaceStd c = true) ∧
    '\n' ∉ sourceText P0 e ∧ makeRule P0 (sourceKind P0 e) (sourceText P0 e) = some e.expr := by
  refine ⟨rfl, fun _ h => h, ?_⟩
  revert o m
  cases k <;> decide +kernel

/-- and of the regression example (`ends_like_modifier` is true of `foo (glob)` but the grammar
    over-approximation is proper: it is also true of `foo (bar)`, which is no modifier) -/
example : endsLikeModifier P0.isSpaceStd ['f', 'o', 'o', ' ', '(', 'b', 'a', 'r', ')'] = true ∧
    modifierOf P0.isWhite ['f', 'o', 'o', ' ', '(', 'b', 'a', 'r', ')'] = none := by
  decide +kernel

end Scrut.Props.C08
