import ScrutModel.Lemmas.Exec
import ScrutModel.Lemmas.TestRunProps
import ScrutModel.Lemmas.TestRunScript
/-!
# C05 — A test passes only if it completed with the expected exit code and accepted output

`validate` is `TestCase::validate`; `selected tc o` says whether the configured stream of output
`o` is accepted by the expectations of `tc` (i.e. `hasDiff (diff …) = false`, see C01/C03).
`execAll`/`runDocument` are the executor loop and the result mapping of `scrut test`.

The second half (`C05_integrated_…`, `C05_document_…`) states the property about the INTEGRATED
model of `scrut test` (`Model/TestRun.lean`), which the correspondence stream `e2e-testdoc` ties to
the binary: there "accepted" is not a Boolean handed in, it is `accepts t.exps s = some true` on the
compiled expectations `t.exps` of the document's test and the recorded bytes `s` of the stream the
test's configuration selects (`selectedStream t r`: `render_output` of what the command wrote).
-/
namespace Scrut.Props.C05
open Scrut.Exec

/-- **C05**: succeeded iff an exit code was produced, it is the expected one (0 when none is
written) and the configured stream is accepted. -/
theorem C05_succeeds_iff (tc : TC) (o : Out) :
    validate tc o = .ok ↔
      ∃ c, o.status = .code c ∧ c = tc.expected.getD 0 ∧ selected tc o = true :=
  Scrut.Exec.validate_ok_iff tc o

/-- a wrong exit code is reported as such regardless of the output -/
theorem C05_wrong_code (tc : TC) (o : Out) (c : Int) (h : o.status = .code c)
    (hne : c ≠ tc.expected.getD 0) : validate tc o = .invalidExit c (tc.expected.getD 0) := by
  rw [validate_code tc o c h, if_pos hne]

/-- a command that did not produce an exit code is never reported as succeeded -/
theorem C05_no_code_never_succeeds (tc : TC) (o : Out) (h : ∀ c, o.status ≠ .code c) :
    validate tc o ≠ .ok := by
  intro hok
  obtain ⟨c, hc, _⟩ := (validate_ok_iff tc o).1 hok
  exact h c hc

/-- **C05** (document level): whatever the runner does, a test case is reported as succeeded only
if the runner was really called for it and returned the expected exit code — in particular no
test case after an aborted one (which consequently did not run) is reported as succeeded. -/
theorem C05_succeeded_only_if_ran (total : Option Nat) (runner : Runner) (tcs : List TC)
    (i : Nat) (h : (i, Verdict.ok) ∈ runDocument tcs (execAll total runner tcs).1) :
    ∃ tc lim, tcs[i]? = some tc ∧ ((runner i lim).1).status = .code (tc.expected.getD 0) :=
  Scrut.Exec.succeeded_only_if_ran total runner tcs i h

example : validate ⟨some 3, .stderr, none, none, true, 0⟩ ⟨.code 3, false, true⟩ = .ok := by decide +kernel
example : validate ⟨none, .stdout, none, none, true, 0⟩ ⟨.unknown, true, true⟩ = .internal := by decide +kernel

/-! ## through the composition: `scrut test` on one document (`Model/TestRun.lean`) -/

section Integrated
open Scrut.TestRun

/-- **C05, integrated** (no false success): if `scrut test` reports test `i` of a document as
`success`, then the command of test `i` ended with the expected exit code (0 when none is written)
and the recorded bytes of the stream selected by the test's `output_stream` are accepted by the
test's compiled expectations; moreover no test of the document ended with its skip code. -/
theorem C05_integrated_no_false_success {tests : List Test} {runs : List Ran}
    {outcomes : List Outcome} {status i : Nat}
    (h : runTests tests runs = .report outcomes status) (hi : (i, Verdict.ok) ∈ outcomes) :
    ∃ (t : Test) (r : Ran), tests[i]? = some t ∧ runs[i]? = some r ∧
      r.code = t.expected.getD 0 ∧
      (∃ s, selectedStream t r = some s ∧ accepts t.exps s = some true) ∧
      skips tests runs = false :=
  runTests_ok_sound h hi

/-- **C05, integrated, converse** (no false failure of the glue): in a reported document in which
no test ended with its skip code, a test whose command ended with the expected exit code and whose
selected stream is accepted IS reported `success`. -/
theorem C05_integrated_success_complete {tests : List Test} {runs : List Ran}
    {outcomes : List Outcome} {status i : Nat} {t : Test} {r : Ran}
    (h : runTests tests runs = .report outcomes status)
    (hs : skips tests runs = false) (ht : tests[i]? = some t) (hr : runs[i]? = some r)
    (hc : r.code = t.expected.getD 0)
    (hacc : ∃ s, selectedStream t r = some s ∧ accepts t.exps s = some true) :
    (i, Verdict.ok) ∈ outcomes := by
  obtain ⟨_, _, hcases⟩ := runTests_report h
  rcases hcases with ⟨hs', _⟩ | ⟨_, _, hmem⟩
  · rw [hs] at hs'; cases hs'
  · exact (hmem i .ok).2 ⟨t, r, ht, hr, ((verdict_ok_iff t r).2 ⟨hc, hacc⟩).symm⟩

/-- **C05, integrated, every verdict**: in such a document `(i, v)` is reported iff `v` is
`verdict tests[i] runs[i]` -- wrong exit code before anything else, then `success` iff the selected
stream is accepted, else `malformed` output. -/
theorem C05_integrated_verdict_iff {tests : List Test} {runs : List Ran}
    {outcomes : List Outcome} {status : Nat} (h : runTests tests runs = .report outcomes status)
    (hs : skips tests runs = false) (i : Nat) (v : Verdict) :
    (i, v) ∈ outcomes ↔
      ∃ (t : Test) (r : Ran), tests[i]? = some t ∧ runs[i]? = some r ∧ v = verdict t r := by
  obtain ⟨_, _, hcases⟩ := runTests_report h
  rcases hcases with ⟨hs', _⟩ | ⟨_, _, hmem⟩
  · rw [hs] at hs'; cases hs'
  · exact hmem i v

/-- `verdict t r` is `success` iff expected exit code and accepted selected stream -/
theorem C05_verdict_ok_iff (t : Test) (r : Ran) :
    verdict t r = .ok ↔
      r.code = t.expected.getD 0 ∧
        ∃ s, selectedStream t r = some s ∧ accepts t.exps s = some true :=
  verdict_ok_iff t r

/-- **C05 from the bytes of the document** (no false success): `tests` are the prepared tests of
the document (`DocTests`: read, parsed, configured, compiled as `scrut test` does). -/
theorem C05_document_no_false_success {bytes : Bytes} {runs : List Ran} {outcomes : List Outcome}
    {status i : Nat} (h : testDocumentBytes bytes runs = .report outcomes status)
    (hi : (i, Verdict.ok) ∈ outcomes) :
    ∃ (tests : List Test) (t : Test) (r : Ran), DocTests bytes tests ∧
      tests[i]? = some t ∧ runs[i]? = some r ∧ r.code = t.expected.getD 0 ∧
      (∃ s, selectedStream t r = some s ∧ accepts t.exps s = some true) ∧
      skips tests runs = false := by
  obtain ⟨tests, hd, hr⟩ := (testDocumentBytes_report_iff ..).1 h
  obtain ⟨t, r, hs⟩ := runTests_ok_sound hr hi
  exact ⟨tests, t, r, hd, hs⟩

/-- **C05 from the bytes of the document**, converse -/
theorem C05_document_success_complete {bytes : Bytes} {runs : List Ran} {outcomes : List Outcome}
    {status i : Nat} {tests : List Test} {t : Test} {r : Ran}
    (h : testDocumentBytes bytes runs = .report outcomes status) (hd : DocTests bytes tests)
    (hs : skips tests runs = false) (ht : tests[i]? = some t) (hr : runs[i]? = some r)
    (hc : r.code = t.expected.getD 0)
    (hacc : ∃ s, selectedStream t r = some s ∧ accepts t.exps s = some true) :
    (i, Verdict.ok) ∈ outcomes := by
  rw [testDocumentBytes_eq_runTests runs hd] at h
  exact C05_integrated_success_complete h hs ht hr hc hacc

/-- **C05, single-script executor** (`runScript`: Cram documents, `--cram-compat`), no false
success through the divider protocol, for all documents and runs: a test reported `success` ended
with the expected exit code, and `render_output` of the bytes
its OWN command wrote (`scriptRendered`: `replace_crlf`, unless the compiled `keep_crlf` is `true`, of
`scriptSelected`: its stderr under `output_stream: stderr`, else its stdout, under `combined` its
stdout followed by its stderr) is accepted by its expectations.  Moreover NO command of the document
left the shell (`exit N`: the stream ends there, fewer dividers than test cases are found, the run
is an execution error unless a skip code was seen) and the document is not skipped.

Why `replace_crlf` of the WHOLE stream is `replace_crlf` of every test's own bytes: the divider line
is glued to the payload, carries no CR and starts with `~`, so a CR at the end of an unterminated
payload pairs with nothing (`Lemmas/TestRunScript.lean`: `spec_scriptStream`), and replacing CR LF
creates no divider start (`infix_of_infix_spec`).  More than 2^64 test cases: the index of a divider
is parsed as `usize`, the executor fails (`iterLines_chunk_big`).

Assumption that stays (it is the shape of `runs`): every test case's expression is a COMPLETE command
with a run of its own.  An expression that bash continues over scrut's footer (it ends in `|`, `&&`,
a backslash, inside a quote …) has none.  What the script text guarantees for those is
`Props/C13.lean` (`C13_script_exit_code_taken_by_assignment`, `C13_script_dividers_do_not_read_status`:
the status is read by the assignment `__SCRUT_EXIT_CODE=$?` directly behind the expression, never by
a divider `echo`, so a swallowed or skipped assignment leaves the divider without an exit code --
an execution error, not a success); what bash makes of it is exercised with the real binary by the
harness stream `e2e-script-incomplete-expression-exhaustive`.

Since the fix `set_consistent!(strip_ansi_escaping)` the key is carried into the compiled
configuration and `strip_ansi_sequences_bytes` runs over the WHOLE captured stream, divider lines
included; hence the hypothesis `ScriptStripInert tests runs` -- no test case sets
`strip_ansi_escaping: true`, or no command wrote an `ESC` byte.  Outside it the stripping does not
commute with the divider protocol (a sequence a command leaves open runs into the following divider
line: `ex_strip_open_osc`, `ex_strip_lone_esc`, execution errors), and "the bytes of the test's OWN
command" is not what is judged.  What holds there: `Props/C16.lean` (`C16_script_strip_ansi_*`). -/
theorem C05_script_no_false_success {tests : List Test} {runs : List SRan}
    {outcomes : List Outcome} {status i : Nat} (hstrip : ScriptStripInert tests runs)
    (h : runScript tests runs = .report outcomes status)
    (hi : (i, Verdict.ok) ∈ outcomes) :
    ∃ (t : Test) (r : SRan) (cfg : Compiled), tests[i]? = some t ∧ runs[i]? = some r ∧
      compileTestcase tests = some cfg ∧ r.ran.code = t.expected.getD 0 ∧
      accepts t.exps (scriptRendered cfg t r) = some true ∧
      (∀ r ∈ runs.take tests.length, r.leaves = false) ∧ scriptSkips tests runs = false :=
  runScript_ok_sound_full hstrip h hi

/-- `scriptRendered` is the model's `render_output` with the COMPILED `keep_crlf` and
`strip_ansi_escaping` on the test's own bytes when there is nothing to strip (the compiled key is
not `true`, or the bytes hold no `ESC`):
the bytes themselves under `keep_crlf: true` (the Cram default), else every byte in order except
each CR that is immediately followed by LF -/
theorem C05_script_rendered (cfg : Compiled) (t : Test) (r : SRan)
    (hs : cfg.stripAnsi ≠ some true ∨ Scrut.StripAnsi.esc ∉ scriptSelected cfg t r) :
    Scrut.Crlf.renderOutput cfg.keepCrlf cfg.stripAnsi (fun b => some (Scrut.StripAnsi.strip b))
        (scriptSelected cfg t r) =
      some (scriptRendered cfg t r) ∧
    (cfg.keepCrlf = some true → scriptRendered cfg t r = scriptSelected cfg t r) ∧
    (cfg.keepCrlf ≠ some true →
      scriptRendered cfg t r = Scrut.Crlf.replaceCrlfSpec (scriptSelected cfg t r)) :=
  ⟨renderOutput_compiled cfg _ hs, fun hk => by simp [scriptRendered, rend, hk],
    fun hk => by simp [scriptRendered, rend, hk]⟩

/-- the compiled `keep_crlf` is the one every test case that sets `keep_crlf` sets -/
theorem C05_script_compiled_keep_crlf {tests : List Test} {cfg : Compiled}
    (h : compileTestcase tests = some cfg) :
    ∀ t ∈ tests, t.cfg.keepCrlf = none ∨ t.cfg.keepCrlf = cfg.keepCrlf :=
  compiled_key (·.cfg.keepCrlf) (compileTestcase_inv h).1

/-- … from the bytes of a Cram document (`CramDocTests`: read, parsed with indentation 2, prepared) -/
theorem C05_cram_document_no_false_success {bytes : Bytes} {runs : List SRan}
    {outcomes : List Outcome} {status i : Nat}
    (hstrip : ∀ tests, CramDocTests bytes tests → ScriptStripInert tests runs)
    (h : testCramDocumentBytes bytes runs = .report outcomes status)
    (hi : (i, Verdict.ok) ∈ outcomes) :
    ∃ (tests : List Test) (t : Test) (r : SRan) (cfg : Compiled), CramDocTests bytes tests ∧
      tests[i]? = some t ∧ runs[i]? = some r ∧
      compileTestcase tests = some cfg ∧ r.ran.code = t.expected.getD 0 ∧
      accepts t.exps (scriptRendered cfg t r) = some true ∧
      (∀ r ∈ runs.take tests.length, r.leaves = false) ∧ scriptSkips tests runs = false := by
  obtain ⟨tests, hd, hr⟩ := (testCramDocumentBytes_report_iff ..).1 h
  obtain ⟨t, r, cfg, hs⟩ := runScript_ok_sound_full (hstrip tests hd) hr hi
  exact ⟨tests, t, r, cfg, hd, hs⟩

/-- … from the bytes of a Markdown document read under `--cram-compat` (`CompatDocTests`) -/
theorem C05_compat_document_no_false_success {bytes : Bytes} {runs : List SRan}
    {outcomes : List Outcome} {status i : Nat}
    (hstrip : ∀ tests, CompatDocTests bytes tests → ScriptStripInert tests runs)
    (h : testDocumentCompatBytes bytes runs = .report outcomes status)
    (hi : (i, Verdict.ok) ∈ outcomes) :
    ∃ (tests : List Test) (t : Test) (r : SRan) (cfg : Compiled), CompatDocTests bytes tests ∧
      tests[i]? = some t ∧ runs[i]? = some r ∧
      compileTestcase tests = some cfg ∧ r.ran.code = t.expected.getD 0 ∧
      accepts t.exps (scriptRendered cfg t r) = some true ∧
      (∀ r ∈ runs.take tests.length, r.leaves = false) ∧ scriptSkips tests runs = false := by
  obtain ⟨tests, hd, hr⟩ := (testDocumentCompatBytes_report_iff ..).1 h
  obtain ⟨t, r, cfg, hs⟩ := runScript_ok_sound_full (hstrip tests hd) hr hi
  exact ⟨tests, t, r, cfg, hd, hs⟩

/-! Non-vacuity, evaluated by the kernel from the bytes of a document with two test cases (the
second: `{output_stream: stderr}`, glob + optional expectation, `[3]`): both `success` (the second
command wrote `x` to stdout and `bb\r\n` to stderr and ended with 3); with a second line on stderr
the second test is `malformed`. -/
example : testDocumentBytes exBytes exRuns = .report [(0, .ok), (1, .ok)] 0 := ex_report
example : testDocumentBytes exBytes exRunsBad = .report [(0, .ok), (1, .malformed)] 50 := ex_report_bad
example : DocTests exBytes exTests := ex_docTests
example : skips exTests exRuns = false := by decide +kernel
/-- a Cram document with two test cases (`exCramBytes`), its prepared tests, a report with a
`success`; the same document when the second command leaves the shell: an execution error -/
example : testCramDocumentBytes exCramBytes exCramRuns = .report [(0, .ok), (1, .invalidExit 0 1)] 50 :=
  ex_cram_report
example : CramDocTests exCramBytes exCramTests := ex_cramDocTests
example : testCramDocumentBytes exCramBytes exCramRunsLeave = .execError := ex_cram_leave
/-- a Markdown document under `--cram-compat` with `keep_crlf: false`: the command writes `a\r\n`,
the expectation `a` accepts `scriptRendered` = `a\n`; a CR at the end of an unterminated payload
(`a\r`, then the divider text) stays -/
example : testDocumentCompatBytes exCrlfBytes [⟨⟨[97, 13, 10], [], 0⟩, false⟩] = .report [(0, .ok)] 0 :=
  ex_crlf_report
example : testDocumentCompatBytes exCrlfBytes [⟨⟨[97, 13], [], 0⟩, false⟩] = .report [(0, .malformed)] 50 :=
  ex_crlf_report_cr
example : CompatDocTests exCrlfBytes exCrlfTests := ex_crlf_docTests
example : compileTestcase exCrlfTests = some ⟨some false, some .combined, some 80, none⟩ ∧
    scriptRendered ⟨some false, some .combined, some 80, none⟩
      ⟨{ outputStream := some .combined, keepCrlf := some false, skipCode := some 80 }, [⟨.equal [97], false, false⟩], none⟩
      ⟨⟨[97, 13, 10], [], 0⟩, false⟩ = [97, 10] := ex_crlf_rendered
example : Scrut.Crlf.replaceCrlfSpec (Scrut.Divider.chunk modelSalt 0 [97, 13] 0) =
    Scrut.Divider.chunk modelSalt 0 [97, 13] 0 := ex_chunk_cr

end Integrated

end Scrut.Props.C05
