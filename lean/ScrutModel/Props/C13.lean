import ScrutModel.Lemmas.StripAnsi
import ScrutModel.Lemmas.Template
import ScrutModel.Lemmas.Crlf
import ScrutModel.Lemmas.Divider
/-!
# C13 — Commands run verbatim; output bytes and exit codes captured exactly, per test (PARTIAL)

What is proved here is the logic scrut itself contributes between the document and the shell and
between the shell and the recorded output:

* the bash template rendering (`BashRunner::run`): the user's expression is substituted last and
  nothing inside it is rewritten (`C13_expression_verbatim`);
* `replace_crlf` (the loop in `src/newline.rs`) never panics and drops exactly the CRs that are
  immediately followed by LF (`C13_crlf`, `C13_crlf_characterisation`), `render_output` applies it
  unless `keep_crlf`, and touches nothing else unless `strip_ansi_escaping` (`C13_keep_crlf_identity`,
  `C13_no_strip_only_crlf`, `C13_strip_after_crlf`);
* scrut's own ANSI stripper removes escape sequences and nothing else (`C13_strip_only_escape_sequences`,
  `C13_strip_csi`, `C13_strip_idempotent`);
* the single-script mode: splitting the captured streams at the divider lines gives back, for every
  test, exactly its payload (terminated or not) and exit code (`C13_divider_roundtrip_partial`,
  `C13_divider_roundtrip_combined_partial`, `C13_stream_roundtrip_partial`,
  `C13_divider_lookalike_is_output`); the value on the STDERR dividers is irrelevant
  (`C13_divider_roundtrip_stderr_code_ignored`);
* the TEXT of the one script (`compile_script`): every expression is followed by an empty line and
  then by a line that is exactly `__SCRUT_EXIT_CODE=$?`, before the divider `echo` of its own test;
  no divider line contains `$?` (`C13_script_lines_around_expression`,
  `C13_script_exit_code_taken_by_assignment`, `C13_script_dividers_do_not_read_status`).

NOT proved (exercised with real processes by the harness): what bash does with the script text,
that the streams it writes are `joinStream` of the payloads, pipes, `Redirection::Merge` order,
stack depth / memory.

Guard of the round trip: no payload contains the divider start OF THIS EXECUTION,
`~~~~~~~~EXECDIVIDER::<salt>::` (`noSalted salt payload`; the salt is 20 random alphanumeric
characters drawn per execution, so a test cannot know it). Payloads may contain the bare prefix or
complete divider lines with any other salt: `C13_divider_lookalike_is_output` (regression for the
repaired defect "the parser ignored the salt", fix 05d9dbd). Without any guard the statement is
false for every protocol that marks boundaries in-band (`C13_divider_guard_needed`).
-/
namespace Scrut.Props.C13
open Scrut.Template Scrut.Crlf Scrut.Divider

/-- `str::replace` leaves a subject alone in which the pattern does not occur -/
theorem C13_replace_absent (pat rep s : List Char) (h : ¬ pat <:+: s) : replaceAll pat rep s = s :=
  replaceAll_of_not_occurs pat rep s ((splitFirst_none_iff pat s).2 h)

/-- exactly one occurrence: only the occurrence is replaced -/
theorem C13_replace_once (pat rep pre post : List Char) (hp : pat ≠ [])
    (h1 : splitFirst pat (pre ++ pat ++ post) = some (pre, post)) (h2 : ¬ pat <:+: post) :
    replaceAll pat rep (pre ++ pat ++ post) = pre ++ rep ++ post :=
  replaceAll_once pat rep _ pre post hp h1 ((splitFirst_none_iff pat post).2 h2)

/-- For every template and every state directory, name, exclusion list, list of configured variable names and detached flag: if after
the five other substitutions the expression placeholder occurs exactly once (`exprOnce`, a
decidable condition on template and values that the harness evaluates on the CURRENT template at
every run), then there are `pre`, `post` -- fixed before the expression is chosen -- such that for
EVERY expression (including ones that contain placeholder names) the script handed to the shell
is `pre ++ expr ++ post`. -/
theorem C13_expression_verbatim (tpl stateDir name excluded envNames : List Char) (detached : Bool)
    (h : exprOnce (substOthers tpl stateDir name excluded envNames detached) = true) :
    ∃ pre post : List Char,
      substOthers tpl stateDir name excluded envNames detached = pre ++ PH_EXPR ++ post ∧
      ¬ PH_EXPR <:+: post ∧
      ∀ expr : List Char, render tpl stateDir name excluded envNames detached expr = pre ++ expr ++ post := by
  obtain ⟨pre, post, h1, h2⟩ := (exprOnce_iff _).1 h
  exact ⟨pre, post, splitFirst_sound _ _ _ _ h1, (splitFirst_none_iff _ _).1 h2,
    fun expr => replaceAll_once PH_EXPR expr _ pre post (by decide) h1 h2⟩

/-- the hypothesis is needed: a substituted value that itself contains the placeholder makes the
expression appear twice (test names are `exec<N>`, state directories are temporary paths) -/
theorem C13_expression_hypothesis_needed :
    render (PH_NAME ++ [' '] ++ PH_EXPR) [] PH_EXPR [] [] false ['x'] = ['x', ' ', 'x'] := by
  decide +kernel

/-- the loop of `replace_crlf` never slices out of range and computes the specification, for
outputs of any size -/
theorem C13_crlf (bs : List UInt8) : replaceCrlf bs = some (replaceCrlfSpec bs) :=
  replaceCrlf_eq_spec bs

/-- the specification, spelled out: bytes are kept in order; a byte is dropped iff it is a CR and
the next byte is LF; hence only CRs disappear and a stream without CR LF is unchanged -/
theorem C13_crlf_characterisation (bs : List UInt8) :
    replaceCrlfSpec [] = [] ∧
    (∀ a t, replaceCrlfSpec (a :: t) =
      if a = Crlf.CR ∧ t.head? = some Crlf.LF then replaceCrlfSpec t else a :: replaceCrlfSpec t) ∧
    (replaceCrlfSpec bs).Sublist bs ∧
    (replaceCrlfSpec bs).filter (· ≠ CR) = bs.filter (· ≠ CR) ∧
    (findCrlf bs = none → replaceCrlfSpec bs = bs) :=
  ⟨rfl, fun _ _ => rfl, spec_sublist bs, spec_filter_ne_cr bs, spec_of_findCrlf_none bs⟩

/-- `keep_crlf: true` (and no ANSI stripping): the recorded bytes are the written bytes -/
theorem C13_keep_crlf_identity (stripAnsi : Option Bool) (strip : List UInt8 → Option (List UInt8))
    (bs : List UInt8) (hs : stripAnsi ≠ some true) :
    renderOutput (some true) stripAnsi strip bs = some bs := by
  simp [renderOutput, hs]

/-- unless `strip_ansi_escaping: true`, the stripper is not consulted: the only change is CR LF -/
theorem C13_no_strip_only_crlf (keepCrlf stripAnsi : Option Bool) (strip : List UInt8 → Option (List UInt8))
    (bs : List UInt8) (hs : stripAnsi ≠ some true) :
    renderOutput keepCrlf stripAnsi strip bs =
      some (if keepCrlf = some true then bs else replaceCrlfSpec bs) :=
  renderOutput_no_strip keepCrlf stripAnsi strip bs hs

/-- with `strip_ansi_escaping: true` the stripper receives the CR-LF-processed bytes -/
theorem C13_strip_after_crlf (keepCrlf : Option Bool) (strip : List UInt8 → Option (List UInt8)) (bs : List UInt8) :
    renderOutput keepCrlf (some true) strip bs =
      strip (if keepCrlf = some true then bs else replaceCrlfSpec bs) :=
  renderOutput_strip keepCrlf strip bs

/-! ## `strip_ansi_escaping: true`: scrut's own stripper (after fix: escape sequences only) -/

open Scrut.StripAnsi in
/-- **with `strip_ansi_escaping: true`** the recorded bytes are the CR-LF-processed bytes without
their ANSI escape sequences, and nothing else happens to them: the result is a subsequence of the
processed bytes (nothing added, changed or reordered), it holds no `ESC`, and bytes that hold no
`ESC` at all -- TAB, CR, BEL, other control characters, invalid UTF-8 included -- are recorded as
they are. -/
theorem C13_strip_only_escape_sequences (keepCrlf : Option Bool) (bs : List UInt8) :
    ∃ processed, processed = (if keepCrlf = some true then bs else replaceCrlfSpec bs) ∧
      renderOutput keepCrlf (some true) (fun x => some (strip x)) bs = some (strip processed) ∧
      (strip processed).Sublist processed ∧ esc ∉ strip processed ∧
      (esc ∉ processed → strip processed = processed) :=
  ⟨_, rfl, renderOutput_strip keepCrlf _ bs, strip_sublist _, esc_not_mem_strip _, strip_no_esc _⟩

open Scrut.StripAnsi in
/-- a CSI sequence (`ESC [`, parameter bytes, intermediate bytes, final byte -- colours, cursor
movement) is removed as a whole, the text around it stays: `pre ESC[…m post` gives `pre` followed by
the stripped `post` -/
theorem C13_strip_csi (pre ps is post : List UInt8) (f : UInt8) (hpre : esc ∉ pre)
    (hp : ∀ x ∈ ps, isParam x = true) (hi : ∀ x ∈ is, isInter x = true) (hf : isCsiFinal f = true) :
    strip (pre ++ esc :: 0x5b :: (ps ++ (is ++ f :: post))) = pre ++ strip post := by
  rw [strip_append_no_esc pre _ hpre, strip_csi ps is f post hp hi hf]

open Scrut.StripAnsi in
/-- stripping twice is stripping once -/
theorem C13_strip_idempotent (bs : List UInt8) : strip (strip bs) = strip bs :=
  strip_no_esc _ (esc_not_mem_strip bs)

/-- regression example of fix (strip kept only printable text and LF): `a<TAB>b<CR>c<BEL>` with a
bold `E` and CR LF: TAB, CR and BEL stay, the two CSI sequences go -/
example : Scrut.StripAnsi.strip [97, 9, 98, 13, 99, 7, 0x1b, 0x5b, 0x31, 0x6d, 69, 0x1b, 0x5b, 0x30, 0x6d, 13, 10]
    = [97, 9, 98, 13, 99, 7, 69, 13, 10] := by decide +kernel

/-- an OSC string (window title) up to `BEL`, a two-byte sequence `ESC c`, a lone `ESC` at the end -/
example : Scrut.StripAnsi.strip [0x1b, 0x5d, 0x30, 0x3b, 116, 7, 120, 0x1b, 0x63, 121, 0x1b] = [120, 121] := by decide +kernel

/-- One stream: for any salt without `:`, `~` and LF (the real one is alphanumeric), payloads
(terminated by LF or not, empty, any bytes) that do not contain the divider start of this
execution, exit codes below 2^31: splitting the stream in which every payload is followed by its
divider line returns exactly the payloads and exit codes. (`limit` is `none` for STDOUT, `some n`
with enough room for STDERR.) -/
theorem C13_stream_roundtrip_partial (limit : Option Nat) (salt : Bytes) (hs : COLON ∉ salt)
    (hsl : Divider.LF ∉ salt) (h126 : (126 : UInt8) ∉ salt)
    (tests : List (Bytes × Nat))
    (hg : ∀ t ∈ tests, noSalted salt t.1 = true ∧ t.2 < 2 ^ 31) (hlen : tests.length ≤ 2 ^ 64)
    (hlim : ∀ n, limit = some n → tests.length ≤ n) :
    iterate salt limit (joinStream salt 0 tests) = .ok (tests.map fun t => (t.1, (t.2 : Int))) :=
  iterate_joinStream limit salt hs hsl h126 tests hg hlen hlim

/-- `execute_all`, separated streams: every test gets back its own stdout, stderr and exit code.
Guards: payloads free of this execution's divider start, no test ends with the skip code.
The STDERR dividers carry the test's own exit code as well (`1>&2 echo "…$__SCRUT_EXIT_CODE"`;
before the exit code was taken by an assignment of its own they carried 0, the status of the
`echo` in front of them). -/
theorem C13_divider_roundtrip_partial (salt : Bytes) (hs : COLON ∉ salt) (hsl : Divider.LF ∉ salt)
    (h126 : (126 : UInt8) ∉ salt) (skip scriptExit : Int)
    (tests : List (Bytes × Bytes × Nat)) (hse : scriptExit ≠ skip) (hlen : tests.length ≤ 2 ^ 64)
    (hg : ∀ t ∈ tests, noSalted salt t.1 = true ∧ noSalted salt t.2.1 = true ∧ t.2.2 < 2 ^ 31 ∧ (t.2.2 : Int) ≠ skip) :
    executeAll salt tests.length false skip scriptExit
        (joinStream salt 0 (tests.map fun t => (t.1, t.2.2)))
        (joinStream salt 0 (tests.map fun t => (t.2.1, t.2.2))) =
      .ok (tests.map fun t => ⟨t.1, t.2.1, (t.2.2 : Int)⟩) :=
  executeAll_separate salt hs hsl h126 skip scriptExit tests (fun t => t.2.2) hse hlen hg
    (fun t ht => (hg t ht).2.2.1)

/-- … and the value on the STDERR dividers is never used: whatever code (`ec`, below 2^31) they
carry -- the test's own, or 0 as with the former script text -- the result is the same -/
theorem C13_divider_roundtrip_stderr_code_ignored (salt : Bytes) (hs : COLON ∉ salt) (hsl : Divider.LF ∉ salt)
    (h126 : (126 : UInt8) ∉ salt) (skip scriptExit : Int)
    (tests : List (Bytes × Bytes × Nat)) (ec : Bytes × Bytes × Nat → Nat)
    (hse : scriptExit ≠ skip) (hlen : tests.length ≤ 2 ^ 64)
    (hg : ∀ t ∈ tests, noSalted salt t.1 = true ∧ noSalted salt t.2.1 = true ∧ t.2.2 < 2 ^ 31 ∧ (t.2.2 : Int) ≠ skip)
    (hec : ∀ t ∈ tests, ec t < 2 ^ 31) :
    executeAll salt tests.length false skip scriptExit
        (joinStream salt 0 (tests.map fun t => (t.1, t.2.2)))
        (joinStream salt 0 (tests.map fun t => (t.2.1, ec t))) =
      .ok (tests.map fun t => ⟨t.1, t.2.1, (t.2.2 : Int)⟩) :=
  executeAll_separate salt hs hsl h126 skip scriptExit tests ec hse hlen hg hec

/-- `execute_all`, merged streams (`output_stream: combined`) -/
theorem C13_divider_roundtrip_combined_partial (salt : Bytes) (hs : COLON ∉ salt) (hsl : Divider.LF ∉ salt)
    (h126 : (126 : UInt8) ∉ salt)
    (skip scriptExit : Int) (tests : List (Bytes × Nat)) (stderr : Bytes) (hse : scriptExit ≠ skip)
    (hlen : tests.length ≤ 2 ^ 64)
    (hg : ∀ t ∈ tests, noSalted salt t.1 = true ∧ t.2 < 2 ^ 31 ∧ (t.2 : Int) ≠ skip) :
    executeAll salt tests.length true skip scriptExit (joinStream salt 0 tests) stderr =
      .ok (tests.map fun t => ⟨t.1, [], (t.2 : Int)⟩) := by
  have hout := iterate_joinStream none salt hs hsl h126 tests
    (fun t ht => ⟨(hg t ht).1, (hg t ht).2.1⟩) hlen (fun _ h => by cases h)
  rw [executeAll_of_stdout true stderr hse hout (List.forall_mem_map.2 fun u hu => (hg u hu).2.2) (by simp)]
  exact congrArg ExecResult.ok (zipErr_map _ (fun _ => []) _ tests [] fun _ _ _ => rfl)

/-- a payload line that looks like a divider, with the salt `X` (the execution's is `S`) -/
def lookalike : Bytes := PREFIX ++ [88, 58, 58, 48, 58, 58, 48, 10]

/-- regression (fix 05d9dbd): output that looks like a divider -- a complete divider line with a
foreign salt, the bare prefix in the middle of a line, the bare prefix as unterminated last line --
is output: it satisfies the guard and every test gets its bytes and exit code back -/
theorem C13_divider_lookalike_is_output :
    noSalted [83] lookalike = true ∧
    executeAll [83] 3 true 80 0
        (joinStream [83] 0 [(lookalike, 0), ([115, 101, 101, 32] ++ PREFIX ++ [32, 120, 10], 3), (PREFIX, 7)]) [] =
      .ok [⟨lookalike, [], 0⟩, ⟨[115, 101, 101, 32] ++ PREFIX ++ [32, 120, 10], [], 3⟩, ⟨PREFIX, [], 7⟩] := by
  decide +kernel

/-- a guard is needed by any in-band protocol: a payload that contains the divider start with the
execution's own salt is split there -/
theorem C13_divider_guard_needed :
    noSalted [83] (needle [83] ++ [48, 58, 58, 48, 10]) = false ∧
    executeAll [83] 1 true 80 0 (joinStream [83] 0 [(needle [83] ++ [48, 58, 58, 48, 10], 0)]) [] = .failed 0 := by
  decide +kernel

/-! ## the script text of the single-script mode (`compile_script`)

What bash does with the text is not modelled; these statements are about the text itself, for every
salt, stream mode, list of `export` lines and list of expressions.  Fix: the exit code of an
expression is taken by a command of its own, `__SCRUT_EXIT_CODE=$?`, and the divider lines expand
that variable.  With the former text (`echo "<divider>::$?"` directly behind the empty line) an
expression that ends in `|` made the divider `echo` the rest of the user's pipeline: its output was
swallowed and `$?` was the status of the `echo`, 0.  Now what can be swallowed is the assignment, and
the divider is then left without an exit code (`parse_divider_bytes` fails: execution error). -/

/-- the line that follows every expression is literally `__SCRUT_EXIT_CODE=$?` -/
example : assignLine = ['_', '_', 'S', 'C', 'R', 'U', 'T', '_', 'E', 'X', 'I', 'T', '_', 'C', 'O', 'D', 'E', '=', '$', '?'] := by decide +kernel

/-- **script layout, line by line**: around ANY expression `e` (test number `pre.length`) the script
lines are: `e`, an empty line, `__SCRUT_EXIT_CODE=$?`, `echo "<divider>"`, `1>&2 echo "<divider>"`
(unless combined), `unset __SCRUT_EXIT_CODE`; before them the lines of the tests before, after them
those of the tests after. -/
theorem C13_script_lines_around_expression (salt : List Char) (combined : Bool)
    (pre : List (List Char)) (e : List Char) (post : List (List Char)) :
    scriptLines salt combined 0 (pre ++ e :: post) =
      scriptLines salt combined 0 pre ++
        ([e, [], assignLine, echoLine salt pre.length] ++
          (if combined then [] else [echoErrLine salt pre.length]) ++ [unsetLine]) ++
        scriptLines salt combined (pre.length + 1) post := by
  rw [scriptLines_append]
  simp only [scriptLines, Nat.zero_add, testLines, List.append_assoc]

/-- **the exit code is taken by a command of its own** (statement on the TEXT handed to bash): around
ANY expression `e` the compiled script is `head ++ e ++ "\n\n__SCRUT_EXIT_CODE=$?\necho
\"<divider>\"\n" ++ ["1>&2 echo \"<divider>\"\n"] ++ "unset __SCRUT_EXIT_CODE" ++ tail`, where `head` is
empty or ends with a newline and `tail` is empty or starts with one: the expression starts on a
line of its own, it reaches the shell verbatim, and the first line behind it that is not empty is
exactly the assignment, followed by the divider `echo` of THIS test (index `pre.length`). -/
theorem C13_script_exit_code_taken_by_assignment (salt : List Char) (combined : Bool)
    (exports pre : List (List Char)) (e : List Char) (post : List (List Char)) :
    ∃ head tail : List Char,
      compileScript salt combined exports (pre ++ e :: post) =
        head ++ (e ++ [NL, NL] ++ assignLine ++ [NL] ++ echoLine salt pre.length ++ [NL] ++
          (if combined then [] else echoErrLine salt pre.length ++ [NL]) ++ unsetLine) ++ tail ∧
      (head = [] ∨ head.getLast? = some NL) ∧ (tail = [] ∨ tail.head? = some NL) := by
  unfold compileScript
  rw [if_neg (by simp), scriptLines_append, ← List.append_assoc]
  simp only [scriptLines, Nat.zero_add]
  rw [← intercalate_testLines, ← List.append_assoc]
  exact intercalate_around NL _ _ _ (by simp [testLines])

/-- **no divider line reads `$?`**: for a salt without `?` (the real one is alphanumeric) the two
divider `echo` lines of every test hold no `?` at all, so `$?` does not occur in them; and a line of
the script in which `$?` occurs is one of the user's expressions or the assignment line.  Hence the
only command of scrut's own that reads a status is the assignment, and the status it can read is
that of what stands directly in front of it. -/
theorem C13_script_dividers_do_not_read_status (salt : List Char) (combined : Bool) (hs : '?' ∉ salt) :
    (∀ k, '?' ∉ echoLine salt k ∧ '?' ∉ echoErrLine salt k ∧
      ¬ ['$', '?'] <:+: echoLine salt k ∧ ¬ ['$', '?'] <:+: echoErrLine salt k) ∧
    ∀ (exprs : List (List Char)) (i : Nat) (l : List Char), l ∈ scriptLines salt combined i exprs →
      ['$', '?'] <:+: l → l ∈ exprs ∨ l = assignLine := by
  have hq : ∀ l : List Char, ['$', '?'] <:+: l → '?' ∈ l := by
    intro l h
    obtain ⟨s, t, rfl⟩ := h
    simp
  refine ⟨fun k => ?_, fun exprs i l hl h => scriptLines_qmark salt combined hs exprs i l hl (hq _ h)⟩
  obtain ⟨h1, h2⟩ := qmark_not_mem_echo salt k hs
  exact ⟨h1, h2, fun h => h1 (hq _ h), fun h => h2 (hq _ h)⟩

set_option maxRecDepth 10000 in
/-- the script for `export A=b`, `sh -c 'exit 7' |` and `true`, separate streams, salt `S` -/
example : compileScript ['S'] false [['e', 'x', 'p', 'o', 'r', 't', ' ', 'A', '=', 'b']] [['s', 'h', ' ', '-', 'c', ' ', '\'', 'e', 'x', 'i', 't', ' ', '7', '\'', ' ', '|'], ['t', 'r', 'u', 'e']] =
    ['e', 'x', 'p', 'o', 'r', 't', ' ', 'A', '=', 'b', '\n', 's', 'h', ' ', '-', 'c', ' ', '\'', 'e', 'x', 'i', 't', ' ', '7', '\'', ' ', '|', '\n', '\n', '_', '_', 'S', 'C', 'R', 'U', 'T', '_', 'E', 'X', 'I', 'T', '_', 'C', 'O', 'D', 'E', '=', '$', '?', '\n', '\\', 'b', 'u', 'i', 'l', 't', 'i', 'n', ' ', 'e', 'c', 'h', 'o', ' ', '"', '~', '~', '~', '~', '~', '~', '~', '~', 'E', 'X', 'E', 'C', 'D', 'I', 'V', 'I', 'D', 'E', 'R', ':', ':', 'S', ':', ':', '0', ':', ':', '$', '_', '_', 'S', 'C', 'R', 'U', 'T', '_', 'E', 'X', 'I', 'T', '_', 'C', 'O', 'D', 'E', '"', '\n', '1', '>', '&', '2', ' ', '\\', 'b', 'u', 'i', 'l', 't', 'i', 'n', ' ', 'e', 'c', 'h', 'o', ' ', '"', '~', '~', '~', '~', '~', '~', '~', '~', 'E', 'X', 'E', 'C', 'D', 'I', 'V', 'I', 'D', 'E', 'R', ':', ':', 'S', ':', ':', '0', ':', ':', '$', '_', '_', 'S', 'C', 'R', 'U', 'T', '_', 'E', 'X', 'I', 'T', '_', 'C', 'O', 'D', 'E', '"', '\n', '\\', 'b', 'u', 'i', 'l', 't', 'i', 'n', ' ', 'u', 'n', 's', 'e', 't', ' ', '_', '_', 'S', 'C', 'R', 'U', 'T', '_', 'E', 'X', 'I', 'T', '_', 'C', 'O', 'D', 'E', '\n', 't', 'r', 'u', 'e', '\n', '\n', '_', '_', 'S', 'C', 'R', 'U', 'T', '_', 'E', 'X', 'I', 'T', '_', 'C', 'O', 'D', 'E', '=', '$', '?', '\n', '\\', 'b', 'u', 'i', 'l', 't', 'i', 'n', ' ', 'e', 'c', 'h', 'o', ' ', '"', '~', '~', '~', '~', '~', '~', '~', '~', 'E', 'X', 'E', 'C', 'D', 'I', 'V', 'I', 'D', 'E', 'R', ':', ':', 'S', ':', ':', '1', ':', ':', '$', '_', '_', 'S', 'C', 'R', 'U', 'T', '_', 'E', 'X', 'I', 'T', '_', 'C', 'O', 'D', 'E', '"', '\n', '1', '>', '&', '2', ' ', '\\', 'b', 'u', 'i', 'l', 't', 'i', 'n', ' ', 'e', 'c', 'h', 'o', ' ', '"', '~', '~', '~', '~', '~', '~', '~', '~', 'E', 'X', 'E', 'C', 'D', 'I', 'V', 'I', 'D', 'E', 'R', ':', ':', 'S', ':', ':', '1', ':', ':', '$', '_', '_', 'S', 'C', 'R', 'U', 'T', '_', 'E', 'X', 'I', 'T', '_', 'C', 'O', 'D', 'E', '"', '\n', '\\', 'b', 'u', 'i', 'l', 't', 'i', 'n', ' ', 'u', 'n', 's', 'e', 't', ' ', '_', '_', 'S', 'C', 'R', 'U', 'T', '_', 'E', 'X', 'I', 'T', '_', 'C', 'O', 'D', 'E'] := by decide +kernel

set_option maxRecDepth 10000 in
/-- … and for `a |` alone, `combined` -/
example : compileScript ['S'] true [] [['a', ' ', '|']] =
    ['a', ' ', '|', '\n', '\n', '_', '_', 'S', 'C', 'R', 'U', 'T', '_', 'E', 'X', 'I', 'T', '_', 'C', 'O', 'D', 'E', '=', '$', '?', '\n', '\\', 'b', 'u', 'i', 'l', 't', 'i', 'n', ' ', 'e', 'c', 'h', 'o', ' ', '"', '~', '~', '~', '~', '~', '~', '~', '~', 'E', 'X', 'E', 'C', 'D', 'I', 'V', 'I', 'D', 'E', 'R', ':', ':', 'S', ':', ':', '0', ':', ':', '$', '_', '_', 'S', 'C', 'R', 'U', 'T', '_', 'E', 'X', 'I', 'T', '_', 'C', 'O', 'D', 'E', '"', '\n', '\\', 'b', 'u', 'i', 'l', 't', 'i', 'n', ' ', 'u', 'n', 's', 'e', 't', ' ', '_', '_', 'S', 'C', 'R', 'U', 'T', '_', 'E', 'X', 'I', 'T', '_', 'C', 'O', 'D', 'E'] := by decide +kernel

/-- `\r\r\n` keeps one CR in front of the LF (and the result contains a CR LF again) -/
example : replaceCrlfSpec [97, 13, 13, 10, 98, 13, 10, 13] = [97, 13, 10, 98, 10, 13] := by decide +kernel

/-- the hypothesis of `C13_expression_verbatim` holds for a small template with all six placeholders -/
example : exprOnce (substOthers (PH_STATE ++ PH_NAME ++ PH_EXCL ++ PH_ENV ++ PH_PERSIST ++ [' '] ++ PH_EXPR ++ ['\n'])
    ['/', 't'] ['e', '1'] ['A', '|', 'B'] ['V', ' ', 'W'] false) = true := by decide +kernel

/-- … and an expression that names placeholders reaches the shell unchanged -/
example : render (PH_PERSIST ++ [' '] ++ PH_EXPR) [] [] [] [] false (PH_PERSIST ++ PH_EXPR) =
    ['1', ' '] ++ PH_PERSIST ++ PH_EXPR := by decide +kernel

/-- the guards of the round trip are satisfiable: unterminated, empty and binary payloads -/
example : executeAll [83] 3 false 80 0
    (joinStream [83] 0 [([97, 10, 98], 3), ([], 0), ([0, 255, 10], 255)])
    (joinStream [83] 0 [([101], 3), ([], 0), ([126, 126, 10, 10], 255)]) =
    .ok [⟨[97, 10, 98], [101], 3⟩, ⟨[], [], 0⟩, ⟨[0, 255, 10], [126, 126, 10, 10], 255⟩] := by decide +kernel

example : noSalted [83] ([126, 126, 126, 126, 126, 126, 126, 126, 10] ++ PREFIX ++ [88, 58, 58]) = true := by decide +kernel

end Scrut.Props.C13
