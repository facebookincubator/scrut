import ScrutModel.Lemmas.Config
import ScrutModel.Lemmas.TestRunScript
/-!
# C16 — Config precedence: command line > test case > document defaults > format

`effectiveTC cli inline doc cliDoc fmt scrutEnv` composes the layers exactly in the order the code
does (parser, test command; the executor adds no layer since fix 0515072 -- it used to apply the
defaults of the document that is run to every test case, also to those of prepended and appended
documents). `firstSome` picks the first layer that sets a value.
The command line cannot set environment variables or per-test defaults (`cliDoc.defaults` is
empty: `to_document_config` only sets `shell` and `total_timeout`); the statements say so in a
hypothesis on `cliDoc`, which `effectiveTC` does not read.
-/
namespace Scrut.Props.C16
open Scrut.Config

/-- **C16** (scalar keys): for every key the value in effect comes from the highest-precedence
layer that sets it: command line, inline, document defaults, format default. -/
theorem C16_scalar (cli inline : TCC) (doc cliDoc : DC) (fmt : TCC) (se : Env)
    (hcli : cliDoc.defaults = TCC.empty) :
    let e := effectiveTC cli inline doc cliDoc fmt se
    e.detached = firstSome [cli.detached, inline.detached, doc.defaults.detached, fmt.detached] ∧
    e.keepCrlf = firstSome [cli.keepCrlf, inline.keepCrlf, doc.defaults.keepCrlf, fmt.keepCrlf] ∧
    e.outputStream = firstSome [cli.outputStream, inline.outputStream, doc.defaults.outputStream, fmt.outputStream] ∧
    e.skipCode = firstSome [cli.skipCode, inline.skipCode, doc.defaults.skipCode, fmt.skipCode] ∧
    e.stripAnsi = firstSome [cli.stripAnsi, inline.stripAnsi, doc.defaults.stripAnsi, fmt.stripAnsi] ∧
    e.timeout = firstSome [cli.timeout, inline.timeout, doc.defaults.timeout, fmt.timeout] ∧
    e.wait = firstSome [cli.wait, inline.wait, doc.defaults.wait, fmt.wait] := by
  simp only [effectiveTC, TCC.ov, TCC.withEnv, TCC.wd, firstSome_cons, firstSome_nil, Option.or_none,
    Option.or_assoc, and_self]

/-- **C16** (environment, per variable): the value of each variable comes from the
highest-precedence layer that binds it: scrut's own documented variables, then the command line
(which cannot bind any today), the inline configuration, the document defaults, the format. -/
theorem C16_env (cli inline : TCC) (doc cliDoc : DC) (fmt : TCC) (se : Env)
    (hcli : cliDoc.defaults = TCC.empty) (v : Nat) :
    (effectiveTC cli inline doc cliDoc fmt se).env.get v =
      firstSome [se.get v, cli.env.get v, inline.env.get v, doc.defaults.env.get v, fmt.env.get v] := by
  simp only [effectiveTC, TCC.ov, TCC.withEnv, TCC.wd, Env.get_append, firstSome_cons, firstSome_nil,
    Option.or_none, Option.or_assoc]

/-- layering is associative -/
theorem C16_assoc (a b c : TCC) : (a.wd b).wd c = a.wd (b.wd c) := by
  simp only [TCC.wd, Option.or_assoc, List.append_assoc]
theorem C16_assoc_doc (a b c : DC) : (a.wd b).wd c = a.wd (b.wd c) := by
  simp only [DC.wd, Option.or_assoc, List.append_assoc, C16_assoc]

/-- an empty layer changes nothing -/
theorem C16_empty (a : TCC) : a.wd TCC.empty = a ∧ TCC.empty.wd a = a := by
  simp only [TCC.wd, TCC.empty, Option.or_none, Option.none_or, List.nil_append, List.append_nil, and_self]
theorem C16_empty_doc (a : DC) : a.wd {} = a ∧ DC.wd {} a = a := by
  have h := C16_empty a.defaults
  simp only [TCC.empty] at h
  simp only [DC.wd, Option.or_none, Option.none_or, List.nil_append, List.append_nil, h, and_self]

/-- `prepend` / `append` accumulate in order instead of overriding -/
theorem C16_lists (a b : DC) :
    (a.wd b).prepend = a.prepend ++ b.prepend ∧ (a.wd b).append = b.append ++ a.append := by
  simp [DC.wd]

/-- document keys: command line over front-matter over the format default -/
theorem C16_document (cliDoc fm fmtDoc : DC) :
    (effectiveDC cliDoc fm fmtDoc).totalTimeout = firstSome [cliDoc.totalTimeout, fm.totalTimeout, fmtDoc.totalTimeout] ∧
    (effectiveDC cliDoc fm fmtDoc).shell = firstSome [cliDoc.shell, fm.shell, fmtDoc.shell] := by
  simp only [effectiveDC, DC.ov, DC.wd, firstSome_cons, firstSome_nil, Option.or_none, and_self]

/-- **C16** (what the command line contributes): the command-line layer sets `output_stream` and `keep_crlf`
and nothing else, each only when one of its two flags is given, the negative flag winning; without output flags
(in particular with `--cram-compat` alone, which is not an input of the layer) it is the empty layer, so by
`C16_scalar` every key then comes from the inline configuration, the document defaults or the format default. -/
theorem C16_cli_layer (nc c nk k : Bool) :
    let l := cliLayer nc c nk k
    l.detached = none ∧ l.skipCode = none ∧ l.stripAnsi = none ∧ l.timeout = none ∧ l.wait = none ∧ l.env = [] ∧
    (l.outputStream = if nc then some 1 else if c then some 3 else none) ∧
    (l.keepCrlf = if nk then some 2 else if k then some 1 else none) ∧
    cliLayer false false false false = TCC.empty := by
  simp [cliLayer, TCC.empty]

/-- ... and the value in effect under the output flags: the flag if one is given, else the highest layer
below the command line (`--cram-compat` only swaps `fmt`) -/
theorem C16_output_flags (nc c nk k : Bool) (inline : TCC) (doc cliDoc : DC) (fmt : TCC) (se : Env)
    (hcli : cliDoc.defaults = TCC.empty) :
    let e := effectiveTC (cliLayer nc c nk k) inline doc cliDoc fmt se
    e.outputStream = firstSome [if nc then some 1 else if c then some 3 else none, inline.outputStream,
      doc.defaults.outputStream, fmt.outputStream] ∧
    e.keepCrlf = firstSome [if nk then some 2 else if k then some 1 else none, inline.keepCrlf,
      doc.defaults.keepCrlf, fmt.keepCrlf] := by
  intro e
  have h := C16_scalar (cliLayer nc c nk k) inline doc cliDoc fmt se hcli
  exact ⟨h.2.2.1, h.2.1⟩

/-! Non-vacuity: a variable bound in the inline configuration and in the defaults. -/
example : (effectiveTC {} { env := [(1, 10)] } { defaults := { env := [(1, 20), (2, 21)] } } {} {} [(3, 30)]).env.get 1 = some 10 := by
  decide +kernel
example : (effectiveTC {} { env := [(1, 10)] } { defaults := { env := [(1, 20), (2, 21)] } } {} {} [(3, 30)]).env.get 2 = some 21 := by
  decide +kernel

/-! ## the single-script executor (Cram documents, `--cram-compat`) carries `strip_ansi_escaping`

Fix `set_consistent!(strip_ansi_escaping)` in `compile_testcase`: before, the key was not carried into
the configuration of the ONE compiled script, so under `--cram-compat` it had no effect from any layer.
Now (`Model/TestRun.lean` section 6) it is carried like the other consistent keys, and
`render_output` of the compiled test case strips the WHOLE captured stream. -/
section Script
open Scrut.TestRun Scrut.Exec

/-- the compiled key is the value the test cases carry: the first set value, which every later test
case has to repeat (`setConsistent`); every test case carries it or nothing, and a compiled `true`
comes from a test case that sets `true` -/
theorem C16_script_strip_ansi_carried {tests : List Test} {cfg : Compiled}
    (h : compileTestcase tests = some cfg) :
    setConsistent none (tests.map (·.cfg.stripAnsi)) = some cfg.stripAnsi ∧
    (∀ t ∈ tests, t.cfg.stripAnsi = none ∨ t.cfg.stripAnsi = cfg.stripAnsi) ∧
    (cfg.stripAnsi = some true → ∃ t ∈ tests, t.cfg.stripAnsi = some true) :=
  ⟨(compileTestcase_inv h).2.2.2, compiled_key (·.cfg.stripAnsi) (compileTestcase_inv h).2.2.2,
    compiled_stripAnsi_origin h⟩

/-- … when every test case carries `true`, so does the compiled configuration -/
theorem C16_script_strip_ansi_all_true {tests : List Test} {cfg : Compiled}
    (h : compileTestcase tests = some cfg) (hne : tests ≠ [])
    (hall : ∀ t ∈ tests, t.cfg.stripAnsi = some true) : cfg.stripAnsi = some true := by
  cases tests with
  | nil => exact absurd rfl hne
  | cons t ts =>
    rcases compiled_key (·.cfg.stripAnsi) (compileTestcase_inv h).2.2.2 t (by simp) with h1 | h1
    · rw [hall t (by simp)] at h1; cases h1
    · rw [← h1]; exact hall t (by simp)

/-- diverging values are the execution error "inconsistent configuration value for
strip_ansi_escaping" (exit status 1, nothing reported) -/
theorem C16_script_strip_ansi_inconsistent (tests : List Test) (tcs : List TC) (runs : List SRan)
    (h : setConsistent none (tests.map (·.cfg.stripAnsi)) = none) :
    execScriptBytes tests tcs runs = .error .exec := by
  have hc : compileTestcase tests = none := by
    unfold compileTestcase
    rw [h]
    split
    · rename_i ha; cases ha
    · rfl
  unfold execScriptBytes
  rw [hc]

/-- what the compiled test case's `render_output` does to a captured stream: `replace_crlf` unless the
compiled `keep_crlf` is `true`, then `strip_ansi_sequences_bytes` iff the compiled key is `true` -/
theorem C16_script_render_output (cfg : Compiled) (raw : Bytes) :
    Scrut.Crlf.renderOutput cfg.keepCrlf cfg.stripAnsi (fun b => some (Scrut.StripAnsi.strip b)) raw =
      some (if cfg.stripAnsi = some true then Scrut.StripAnsi.strip (rend cfg raw) else rend cfg raw) :=
  renderOutput_compiled_full cfg raw

/-- **nothing to strip, nothing changes**: when all test cases carry the same
`strip_ansi_escaping: true` and no command of the runs the document uses wrote an `ESC` byte (the only
byte `strip_ansi_sequences_bytes` reacts to: `StripAnsi.strip_no_esc`; it knows no 8-bit C1
introducers), the result -- report, execution error, `unsupported`, all of it -- is the one of the same
test cases without the key -/
theorem C16_script_strip_ansi_no_escape (tests : List Test) (runs : List SRan)
    (hall : ∀ t ∈ tests, t.cfg.stripAnsi = some true)
    (hesc : ∀ r ∈ runs.take tests.length,
      Scrut.StripAnsi.esc ∉ r.ran.stdout ∧ Scrut.StripAnsi.esc ∉ r.ran.stderr) :
    runScript tests runs = runScript (tests.map clearStrip) runs := by
  obtain ⟨a, ha⟩ := setConsistent_all_same true (tests.map (·.cfg.stripAnsi)) none (Or.inl rfl)
    (fun v hv => by
      obtain ⟨t, ht, rfl⟩ := List.mem_map.1 hv
      exact hall t ht)
  exact runScript_strip_no_escape tests runs a ha hesc

/-- … the same for ANY consistent value of the key (`some false` on every test case, the key on the
last test case only, …) -/
theorem C16_script_strip_ansi_consistent_no_escape (tests : List Test) (runs : List SRan) (a : Option Bool)
    (hcons : setConsistent none (tests.map (·.cfg.stripAnsi)) = some a)
    (hesc : ∀ r ∈ runs.take tests.length,
      Scrut.StripAnsi.esc ∉ r.ran.stdout ∧ Scrut.StripAnsi.esc ∉ r.ran.stderr) :
    runScript tests runs = runScript (tests.map clearStrip) runs :=
  runScript_strip_no_escape tests runs a hcons hesc

/- NOT proved: a statement "in terms of the runs" for outputs
that DO hold escape sequences -- "when every sequence in a command's bytes is complete, the test is
judged on `strip` of its own bytes" -- needs `strip (payload ++ divider ++ rest) = strip payload ++
divider ++ strip rest` for payloads that end outside a sequence; `Lemmas/StripAnsi.lean` has the
pieces (`strip_append_no_esc`, `strip_csi`), the composition with the divider protocol is open.  What
the model says there is fixed by the evaluated documents below and by the correspondence streams
`e2e-testdoc-cram-compat` / `e2e-testdoc-cram-compat-strip-ansi`. -/

/-- **the key has an effect under `--cram-compat`**: the document
`# t / ```scrut {strip_ansi_escaping: true} / $ cmd / foo / ``` `, the command writes
`ESC [ 1 m foo ESC [ 0 m LF`: the expectation `foo` accepts it -/
example : testDocumentCompatBytes exStripBytes [⟨⟨[27, 91, 49, 109, 102, 111, 111, 27, 91, 48, 109, 10], [], 0⟩, false⟩] =
    .report [(0, .ok)] 0 := ex_strip_report
/-- … the same output without the key: wrong output -/
example : testDocumentCompatBytes exNoStripBytes [⟨⟨exSgrFoo, [], 0⟩, false⟩] = .report [(0, .malformed)] 50 :=
  ex_nostrip_report
/-- two test cases, both with the key: both stripped -/
example : testDocumentCompatBytes exStrip2Bytes
    [⟨⟨exSgrFoo, [], 0⟩, false⟩, ⟨⟨[27, 91, 51, 49, 109, 98, 97, 114, 10], [], 0⟩, false⟩] =
    .report [(0, .ok), (1, .ok)] 0 := ex_strip2_report
/-- the key on the first test case only: an execution error -/
example : testDocumentCompatBytes exStripDivBytes
    [⟨⟨exSgrFoo, [], 0⟩, false⟩, ⟨⟨[98, 97, 114, 10], [], 0⟩, false⟩] = .execError := ex_strip_diverging
/-- an unterminated OSC `ESC ] 0 ; t` behind the first test's `foo`: the dividers are swallowed, an
execution error, not a verdict; likewise a lone `ESC` at the end of the bytes -/
example : testDocumentCompatBytes exStrip2Bytes
    [⟨⟨[102, 111, 111, 10, 27, 93, 48, 59, 116], [], 0⟩, false⟩, ⟨⟨[98, 97, 114, 10], [], 0⟩, false⟩] =
    .execError := ex_strip_open_osc
example : testDocumentCompatBytes exStripBytes [⟨⟨[102, 111, 111, 10, 27], [], 0⟩, false⟩] = .execError :=
  ex_strip_lone_esc

end Script

end Scrut.Props.C16
