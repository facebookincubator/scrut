import ScrutModel.Lemmas.GenerateCram
import ScrutModel.Lemmas.GenerateUpdate
import ScrutModel.Props.C11
import ScrutModel.Lemmas.UpdateRunWitness
/-!
# C09 — Generated tests pass against the very output they were generated from

Model: `Scrut.Gen` (`Model/Generate.lean`): `generate_expectation_line` (`expectationLine`, on top
of the escaper model of C11), `looks_like_modifier_or_exit_code`, `generate_testcase` for the
outcome that `scrut create` builds (`createResult`, `generateTestcase`), the Markdown and Cram
wrappers (`markdownDoc`, `cramDoc`). The model is the code after fix 9b34612 (the ` (no-eol)
(escaped)` → `\x20(no-eol) (escaped)` rewrite is the last step), after fix 961e96b (`generate_testcase_expression`
writes every piece of `split('\n')` of the command as a line: no panic on the empty command, a final line feed
keeps its empty continuation line `> `; `C09_command_lines`: the pieces, joined, are the command -- the only
hypothesis on the command in the end-to-end theorems is about the carriage return `str::lines()` strips) and
after fix cfef990 (`update`: the exit code line goes in FRONT of the expectation lines -- also `[0]` -- when the
first of them is a retained text that starts with `> `: `C09_update_text`, C10's `C10_exit_code_first`).

What is proved, for `create`, is the composition through the component models:
output → lines (`split_at_newline`, Newline model) → one generated text per line
(`expectationLine`) → classified as an expectation by the line parser (LineParser model, C06/C07)
→ parsed by the grammar (Grammar model, C08) with the rule constructors of the string kinds
(RulesStr / EscapedFilter models, C04/C11) → matched against the output's lines by the matcher
(Diff model, C01–C03) → exit-code gate and verdict (`validate`, Exec model).
The last hop through the document parser is proved for Markdown (`C09_create_markdown_end_to_end`):
the document `create` prints is `str::lines()`-split into the rendering of one well-formed block
of C06's grammar (fence of `max_backtick_size + 1` backticks recognised with language and inline
configuration, no generated line closes the block or ends in a carriage return, the first line after
the command is no continuation, `[code]` is the only exit code line), so `MarkdownParser::parse`
(Markdown model, C06) returns exactly one test with the same command lines, the generated texts as
expectations and the exit code. The Cram hop is `C09_create_cram_end_to_end`
(the document is the rendering of one test of C07's grammar, `cram_indented` puts every generated
line behind two blanks, no generated character is a carriage return or line feed:
`C09_line_printable`).

Parameters: `isOther` = `char::is_other()` (unicode-mode statements assume `AsciiContract`, as in
C11); `P : Grammar.Params` with `StdParams P`: `\s` is Unicode white space and the `escaped`
constructor is `apply_escaped_filter_bytes` behind the ` (no-eol)` strip that `Grammar.makeRule` does
itself, i.e. `EscapedRule::make` (`stdParams` is such a `P` for any glob/regex constructors).
The model is the code after fix c1bf05c: the escaper itself writes `\x20(no-eol)` for content
ending in ` (no-eol)` (`Esc.guardTailingNoEol`); the generator's own rewrite remains for the
first-character escape of printable lines (`$ foo (no-eol)`).

**`update`: the full-strength statement is FALSE** (open finding
`C09:update-retained-quantified-expectations`):
```
theorem C09_update (doc) (outputs) : for every test k of doc that fails on outputs[k], the block that
    `generate_update doc outcomes` writes for k parses to a test with the same shell expression
    that validates against outputs[k]
```
`update` keeps matched expectations (with their quantifiers) and writes new lines only for
unexpected output; unmatched expectations are dropped. The greedy matcher (C03: complete only for
deterministic lists) re-run on the new list can take another path: expectations `a* (glob+)`,
`zzz`, `*2 (glob)` on output `a1`, `a2`, `b2` → update writes `a* (glob+)`, `*2 (glob)`, which
fails on the same output (`C09_update_fails_on_witness`).

**What is proved for `update`** is the true part. Model: `Gen.generateTestcaseUpd` =
`Outcome::generate_testcase` for a test WITH expectations (`Ok`: the original texts; `MalformedOutput
(diff)`: `MatchedExpectation` → original text, `UnexpectedLines` → one generated line each,
`UnmatchedExpectation` → dropped; the exit code line behind them, or in front if the first line written is a
retained one starting with `> `; `InvalidExitCode`: every line regenerated), for ANY expectations
(quantified ones too) and any diff; `create`'s `generateTestcase` is its special case "no
expectations" (`C09_create_is_update_special_case`), so everything above stays a statement about the
same function. `slots d` is the expectation list written for the diff `d` (`kept ei` = original
expectation `ei`, `gen li` = generated for line `li`); the text written is exactly the texts of these
entries (`C09_update_text`). The guard of the theorem is: **no expectation of the test carries a
quantifier** (`?`, `*`, `+`) -- any kinds (glob, regex, …), any match matrix `mt`. Then, for the real
matcher's diff `d = diff n m es mt` (whether it has differences or not), the updated list has
exactly one entry per output line, in line order, entry `k` is a retained expectation that matches
line `k` or the expectation generated for line `k` (`C09_update_unquantified_entries`; retained
ones keep their order: `C09_update_keeps_order`), no entry carries a quantifier, and the matcher
run on the updated list against the same lines reports NO difference
(`C09_update_unquantified_passes`, by C02's conservation `diff_wf`, `C09_line_roundtrip` and
`C03_own_lines`). The exit code line is `create`'s (`C09_exit_code_roundtrip`). The
`InvalidExitCode` branch discards all expectations, so it needs no guard
(`C09_update_invalid_exit_code`). Quantified retained expectations are exactly what the guard
excludes, and the witness above shows that it cannot be dropped: there `slots d = [kept 0, kept 2]`
-- two entries for three lines (`C09_update_witness_slots`).
Assumption (not in the model): the original text of a retained expectation parses back to the
expectation it came from (same rule, same quantifiers), so that the updated list's entry `kept ei`
matches what `mt ei` says -- decided on the real code by the update oracles (real `update` → real
parser → real `validate`).

**`update` through the composition** (`Model/UpdateRun.lean`, the integrated model of `scrut update`
tied to the binary by the stream `e2e-upddoc`; proofs in `Lemmas/UpdateRunRejudge.lean`,
`Lemmas/UpdateRunProps.lean`).  There the assumption above is no assumption: the retained texts and
the generated lines are compiled by the SAME `TestRun.compile` that `scrut test` / `update` compile
a document's expectation lines with, the match matrix is `Rule.matches`, the diff is the one
`UpdateRun.judge` computes on the recorded stream.  `C09_run_outcome_rejudged`: for ONE test, whatever
its result (`Ok`, `InvalidExitCode`: no guard; `MalformedOutput`: no quantified expectation), the
text `generate_testcase` returns is the text of a test `u'` -- same configuration, same command, the
written expectation lines compiled by `compile`, the exit code of the run as expected exit code (`RewrittenAs`:
`none` for 0; where `[0]` is written in front of a `> ` line it reads back as `some 0`, the same gate) -- that
PASSES on the same run (`Passes`: exit code gate and the matcher on the validated stream).
`C09_run_rewritten_passes`: the same for every test of a document that `updateDocument` overwrites,
with `gens[k]` (the text that goes into block `k`, C10's `C10_run_unfolded`) = `passText u'`.  The
last hop -- the written block, read by the document parser, IS that test (command, expectation
lines, exit code) -- is `UpdateRun.reparse_block`, used by C10's `C10_run_idempotent_partial`.
-/
namespace Scrut.Props.C09
open Scrut.Utf8 Scrut.Esc Scrut.EscLemmas Scrut.Rules Scrut.Gen Scrut.GenLemmas Scrut.Diff
open Scrut.Grammar (Params parse)

/-- **C09 (line round trip)**, both modes, every line of every output (any bytes): the generator
does not panic and the text `t` it writes for the line `l`
(i) contains no line feed, does not start with `$ ` or `> ` and is not an exit-code line, so the
line parser takes it as an expectation (`C09_line_is_expectation`);
(ii) parses, by the expectation grammar, to an UNQUANTIFIED expectation of kind `equal`, `no-eol`
or `escaped`
(iii) whose rule matches `l`.
No guard: lines that look like `[1]`, `$ x`, `> x`, `foo (glob)`, `x (no-eol)`, invalid UTF-8,
control characters, backslashes and a missing final line feed are all covered. -/
theorem C09_line_roundtrip (P : Params) (hP : StdParams P) (m : Mode) (isOther : Char → Bool)
    (hC : m = .unicode → AsciiContract isOther) (l : List UInt8) (hl : Newline.IsLine l) :
    ∃ t, expectationLine m isOther l = some t ∧
      '\n' ∉ t ∧ commandLead t = none ∧ LineParser.isExitCodeForm t = false ∧
      ∃ e, parse P t = .ok e ∧ e.optional = false ∧ e.multiline = false ∧
        (e.kind = .equal ∨ e.kind = .noEol ∨ e.kind = .escaped) ∧
        strRuleMatches e.kind e.expr l = true := by
  obtain ⟨t, ht, hok⟩ := line_ok hP m isOther hC hl
  exact ⟨t, ht, hok.no_nl, hok.no_lead, hok.no_exit, hok.parses⟩

/-- `strRuleMatches` is `matches` of the three string rules of `Model/RulesStr.lean` -/
theorem C09_strRuleMatches (e : List Char) (bytes line : List UInt8) :
    strRuleMatches .equal (utf8 e) line = equalMatches e line ∧
    strRuleMatches .noEol (utf8 e) line = noEolMatches e line ∧
    strRuleMatches .escaped bytes line = escapedMatches bytes line := ⟨rfl, rfl, rfl⟩

/-- `commandLead t = none` says: neither `$ ` nor `> ` is a prefix of `t` -/
theorem C09_commandLead_none (t : List Char) (h : commandLead t = none) :
    LineParser.stripPrefix ['$', ' '] t = none ∧ LineParser.stripPrefix ['>', ' '] t = none :=
  commandLead_none_strip h

/-- **C09 (classification)**: below a command -- in either parser mode, directly after the command
line or later -- `add_testcase_body` appends such a text to the expectations of the test -/
theorem C09_line_is_expectation {κ : Type} (expOk : List Char → Bool) (s : LineParser.State κ)
    (t : List Char) (idx : Nat) (hcmd : s.command.isEmpty = false) (hlead : commandLead t = none)
    (hexit : LineParser.isExitCodeForm t = false) (hok : expOk t = true) :
    s.addBody expOk t idx =
      .ok ({ s with inCommand := false, expectations := s.expectations ++ [t] }, .expectation) := by
  obtain ⟨h1, h2⟩ := commandLead_none_strip hlead
  exact LineParser.addBody_exp expOk idx (by simpa using hcmd) (fun _ => h1) (fun _ => h2) hexit hok

/-- the outcome `create` starts from: the diff of NO expectations against `n` lines is one block
of unexpected lines holding all of them (`MalformedOutput`), or nothing (`Ok`) -/
theorem C09_create_outcome (n : Nat) (es : Nat → Diff.Exp) (mt : Nat → Nat → Bool) :
    diff 0 n es mt = if 0 < n then [DL.unexpected (rangeFrom 0 n)] else [] :=
  diff_no_expectations n es mt

/-- **C09 (shape)**: for every command (`generate_testcase_expression` does not panic: `ex`), whichever of the
three branches of `generate_testcase` the outcome takes (`Ok`, `MalformedOutput`, `InvalidExitCode`), the test
body is: the command, one generated line per line of the validated stream, and `[code]` iff `code ≠ 0` -/
theorem C09_create_shape (m : Mode) (isOther : Char → Bool) (cmd : List Char)
    (out : List UInt8) (code : Int) :
    ∃ ex, expression cmd = some ex ∧
    generateTestcase m isOther cmd (createResult out code) out code =
      (expectationLines m isOther (Newline.splitAtNewline out)).map (fun e => ex ++ e ++ exitCodeOpt code) := by
  obtain ⟨ex, hex⟩ := expression_isSome cmd
  exact ⟨ex, hex, generateTestcase_create m isOther cmd ex out code hex⟩

/-- **C09 (command lines)**: `generate_testcase_expression` writes the pieces of `split('\n')` of the command,
`$ ` in front of the first, `> ` in front of the others.  There is at least one piece, no piece holds a line
feed, and their `join("\n")` -- the `shell_expression` of the test the parsers build from these lines -- is the
command: nothing is lost, whatever the command (empty, ending in line feeds).  Conversely lines without line
feed are the pieces of their `join("\n")`. -/
theorem C09_command_lines (cmd : List Char) :
    (∃ c0 more, splitNl cmd [] = c0 :: more ∧
      expression cmd = some (Update.unlines (('$' :: ' ' :: c0) :: more.map (fun x => '>' :: ' ' :: x)))) ∧
    (∀ l ∈ splitNl cmd [], '\n' ∉ l) ∧ LineParser.joinNl (splitNl cmd []) = cmd ∧
    (∀ c0 more, (∀ l ∈ c0 :: more, '\n' ∉ l) → splitNl (joinNl (c0 :: more)) [] = c0 :: more) :=
  Scrut.UpdateRun.command_lines cmd

/-- … and those lines are all written (no panic): `ts[i]` for line `i`, each followed by a line feed -/
theorem C09_create_lines_written (m : Mode) (isOther : Char → Bool)
    (hC : m = .unicode → AsciiContract isOther) (out : List UInt8) :
    ∃ ts : List (List Char), ts.length = (Newline.splitAtNewline out).length ∧
      (∀ i (h : i < (Newline.splitAtNewline out).length),
        expectationLine m isOther (Newline.splitAtNewline out)[i] = ts[i]?) ∧
      expectationLines m isOther (Newline.splitAtNewline out) = some (ts.flatMap (· ++ ['\n'])) :=
  expectationLines_some m isOther hC _ (Newline.splitAtNewline_isLine out)

/-- **C09 (create passes: output)**: for every output, the expectations that the generated lines
parse to (`genExp`: generated text, then `parse`) carry no quantifier, and the matcher
(`DiffTool::diff`) run with them against the lines of that same output reports no difference. -/
theorem C09_create_passes (P : Params) (hP : StdParams P) (m : Mode) (isOther : Char → Bool)
    (hC : m = .unicode → AsciiContract isOther) (out : List UInt8) :
    (∀ i, genQuant P m isOther (Newline.splitAtNewline out) i = ⟨false, false⟩) ∧
    hasDiff (diff (Newline.splitAtNewline out).length (Newline.splitAtNewline out).length
      (genQuant P m isOther (Newline.splitAtNewline out))
      (matchMatrix P m isOther (Newline.splitAtNewline out))) = false :=
  ⟨genQuant_none hP m isOther hC _ (Newline.splitAtNewline_isLine out), create_no_diff hP m isOther hC _ (Newline.splitAtNewline_isLine out)⟩

/-- **C09 (create passes: exit code)**: `[c]` is written iff `c ≠ 0`, and for a process exit code
(0..255) the line written reads back as `c` -/
theorem C09_exit_code_roundtrip (c : Int) (h0 : 0 ≤ c) (h1 : c ≤ 255) :
    (exitCodeOpt c = [] ↔ c = 0) ∧
    (c ≠ 0 → exitCodeOpt c = (['['] ++ showInt c ++ [']']) ++ ['\n']) ∧
    LineParser.extractExitCode (['['] ++ showInt c ++ [']']) = some c.toNat := by
  refine ⟨?_, ?_, exitCode_roundtrip_i32 c h0 (Int.le_trans h1 (by decide))⟩
  · by_cases hc : c = 0 <;> simp [exitCodeOpt, hc, exitCodeLine]
  · intro hc; simp [exitCodeOpt, hc, exitCodeLine]

/-- **C09 (create passes: verdict)**: a test case whose expected exit code is the one read back
(`none` for 0) and whose selected stream is accepted gets the verdict `ok` from `validate` -/
theorem C09_create_verdict (c : Int) (tc : Exec.TC) (o : Exec.Out) (hs : o.status = .code c)
    (hexp : tc.expected = if c ≠ 0 then some c else none) (hacc : Exec.selected tc o = true) :
    Exec.validate tc o = .ok := by
  refine (Exec.validate_ok_iff tc o).2 ⟨c, hs, ?_, hacc⟩
  rw [hexp]
  split
  · rfl
  · rename_i hc
    simpa using hc

/-- `env.expOk` of the Markdown parser model is `ExpectationMaker::parse(..).is_ok()` -/
def envOf (P : Params) (isLetter : Char → Bool) : Markdown.Env :=
  { isLetter := isLetter
    expOk := fun t => match parse P t with | .ok _ => true | .error _ => false
    docCfgOk := fun _ => true
    testCfgOk := fun _ => true }

/-- **C09 (create, Markdown, through the document parser)**: for EVERY command text `cmd` (the empty one,
one ending in line feeds; the one restriction left is that no piece of `split('\n')` ends in a carriage
return, which `str::lines()` would strip), every output `out`, every
process exit code, both escapers and every inline configuration `create` / `update --convert` write here,
`scrut create` does not panic and the document it prints is read back by `MarkdownParser::parse` as
EXACTLY ONE test: the command lines `split('\n')` of `cmd` (whose `join("\n")` is `cmd`: `C09_command_lines`),
the exit code (`none` for 0), the inline configuration, and
as expectations the texts `ts[i]` written for the lines of `out` -- of which `C09_line_roundtrip`
says that each parses to an unquantified expectation matching its line and `C09_create_passes` that
the matcher reports no difference. Any parser environment whose expectation check accepts what the
grammar parses and whose YAML check accepts the written configuration texts (`envOf` is one). -/
theorem C09_create_markdown_end_to_end (P : Params) (hP : StdParams P) (m : Mode) (isOther : Char → Bool)
    (hC : m = .unicode → AsciiContract isOther) (env : Markdown.Env) (hlang : env.languages = [language])
    (hcfg : ∀ cfg c, cfgInner cfg = some c → env.testCfgOk c = true)
    (hexp : ∀ t e, parse P t = .ok e → env.expOk t = true)
    (cfg : ConfigDiff) (cmd : List Char) (hcr : ∀ l ∈ splitNl cmd [], l.getLast? ≠ some '\r')
    (out : List UInt8) (code : Int) (h0 : 0 ≤ code) (h1 : code ≤ 255) :
    ∃ doc ts, create .markdown m isOther cfg cmd out code = some doc ∧
      ts.length = (Newline.splitAtNewline out).length ∧
      (∀ i (h : i < (Newline.splitAtNewline out).length),
        expectationLine m isOther (Newline.splitAtNewline out)[i] = ts[i]?) ∧
      Markdown.parseMarkdown env doc
        = .ok { docConfigs := []
                tests := [{ title := []
                            command := splitNl cmd []
                            exitCode := if code ≠ 0 then some code.toNat else none
                            expectations := ts
                            lineNumber := 2
                            config := some (cfgInner cfg) }] } := by
  obtain ⟨c0, more, hs, hj, hnl⟩ := splitNl_cases cmd
  rw [hs] at hcr ⊢
  have := create_markdown_end_to_end hP m isOther hC env (by rw [hlang]; decide) cfg (hcfg cfg) hexp c0 more
    (fun l hl => ⟨hnl l hl, hcr l hl⟩) out code h0 (Int.le_trans h1 (by decide))
  rwa [hj] at this

/-- **C09 (printable)**: every character of a generated expectation line is printable -- ascii
mode: `0x20..0x7e`; unicode mode: no `is_other` character -- in particular it is neither a carriage
return nor a line feed, whatever bytes the output line holds -/
theorem C09_line_printable (m : Mode) (isOther : Char → Bool) (hC : m = .unicode → AsciiContract isOther)
    (line : List UInt8) (t : List Char) (ht : expectationLine m isOther line = some t) :
    ∀ c ∈ t, (match m with | .ascii => 0x20 ≤ c.toNat ∧ c.toNat ≤ 0x7e | .unicode => isOther c = false) ∧
      c ≠ '\r' ∧ c ≠ '\n' := by
  intro c hc
  have h := expectationLine_printable m isOther hC line t ht c hc
  refine ⟨?_, charOK_not_ctl hC h⟩
  cases m <;> exact h

/-- **C09 (create, Cram, through the document parser)**: the same for `create --format cram`: the
document is read back by `CramParser::parse` (indentation 2) as exactly one test with the command lines
`split('\n')` of `cmd` -- EVERY command text without carriage return --, the generated
texts as expectations, the exit code, and the Cram default configuration. -/
theorem C09_create_cram_end_to_end (P : Params) (hP : StdParams P) (m : Mode) (isOther : Char → Bool)
    (hC : m = .unicode → AsciiContract isOther) (expOk : List Char → Bool)
    (hexp : ∀ t e, parse P t = .ok e → expOk t = true)
    (cfg : ConfigDiff) (cmd : List Char) (hcr : '\r' ∉ cmd)
    (out : List UInt8) (code : Int) (h0 : 0 ≤ code) (h1 : code ≤ 255) :
    ∃ doc ts, create .cram m isOther cfg cmd out code = some doc ∧
      ts.length = (Newline.splitAtNewline out).length ∧
      (∀ i (h : i < (Newline.splitAtNewline out).length),
        expectationLine m isOther (Newline.splitAtNewline out)[i] = ts[i]?) ∧
      Cram.parseCram expOk 2 doc
        = .ok (Cram.DocConfig.defaultCram,
            [{ title := []
               command := splitNl cmd []
               exitCode := if code ≠ 0 then some code.toNat else none
               expectations := ts
               lineNumber := 1
               config := some Cram.TCConfig.defaultCram }]) := by
  obtain ⟨c0, more, hs, hj, hnl⟩ := splitNl_cases cmd
  rw [hs]
  have := create_cram_end_to_end hP m isOther hC expOk hexp cfg c0 more hnl
    (fun l hl hr => hcr (hj ▸ mem_joinNl (c0 :: more) l hl '\r' hr)) out code h0 (Int.le_trans h1 (by decide))
  rwa [hj] at this

/-- the Markdown wrapper: the fence has at least three backticks and more than any line of the
block has at its start, so no generated line closes the block -/
theorem C09_markdown_fence (g : List Char) :
    3 ≤ maxBacktickSize g + 1 ∧ ∀ l ∈ lines g, leadingBackticks l < maxBacktickSize g + 1 :=
  fence_longer g

/-! ### `update`: a test with expectations -/

/-- **C09 (one function)**: `generate_testcase` on the outcome `create` builds (`generateTestcase`,
`createResult`) is `generate_testcase` for a test with expectations (`generateTestcaseUpd`) on the
outcome `validate` (`updResult`) returns for the EMPTY expectation list, no expected exit code, and
the real matcher's diff of no expectations against the lines of the output -/
theorem C09_create_is_update_special_case (m : Mode) (isOther : Char → Bool) (cmd : List Char)
    (out : List UInt8) (code : Int) (es : Nat → Diff.Exp) (mt : Nat → Nat → Bool) :
    generateTestcase m isOther cmd (createResult out code) out code =
      generateTestcaseUpd m isOther cmd []
        (updResult none (diff 0 (Newline.splitAtNewline out).length es mt) code)
        (Newline.splitAtNewline out) code :=
  generateTestcase_create_upd m isOther cmd out code es mt

/-- … and branch by branch, for any result of a test without expectations -/
theorem C09_create_is_update_branches (m : Mode) (isOther : Char → Bool) (cmd : List Char)
    (out : List UInt8) (code : Int) :
    (∀ lines, generateTestcase m isOther cmd .ok out code =
      generateTestcaseUpd m isOther cmd [] .ok lines code) ∧
    (∀ ls, generateTestcase m isOther cmd (.malformed ls) out code =
      generateTestcaseUpd m isOther cmd [] (.malformed [.unexpected (rangeFrom 0 ls.length)]) ls code) ∧
    (∀ origs actual, generateTestcase m isOther cmd (.invalidExit actual) out code =
      generateTestcaseUpd m isOther cmd origs (.invalidExit actual) (Newline.splitAtNewline out) code) :=
  ⟨fun lines => generateTestcase_ok m isOther cmd out lines code,
   fun ls => generateTestcase_malformed m isOther cmd out ls code,
   fun origs actual => generateTestcase_invalidExit m isOther cmd out origs actual code⟩

/-- **C09 (update, text)**: for `MalformedOutput(d)` -- any diff, any expectations, quantified or
not, any command -- the test body is: the command, the texts of the entries of `slots d` one after the other
(`kept ei`: the original text of expectation `ei` with a line feed; `gen li`: the line generated for
output line `li`), and `[code]` iff `code ≠ 0` -- unless the first entry is a retained text that starts with
`> ` (`contFirst`): then `[code]` (also `[0]`) stands between the command and the texts, so that the text is not
read as a continuation of the command (fix cfef990) -/
theorem C09_update_text (m : Mode) (isOther : Char → Bool) (cmd : List Char)
    (origs : List (List Char)) (lines : List (List UInt8)) (d : List DL) (code : Int) :
    ∃ ex, expression cmd = some ex ∧
    generateTestcaseUpd m isOther cmd origs (.malformed d) lines code =
      (slotsText m isOther origs lines (slots d)).map (fun b =>
        if contFirst origs (slots d) then ex ++ exitCodeLine code ++ b else ex ++ b ++ exitCodeOpt code) := by
  obtain ⟨ex, hex⟩ := expression_isSome cmd
  exact ⟨ex, hex, generateTestcaseUpd_malformed_text m isOther cmd ex origs lines d code hex⟩

/-- **C09 (update, entries)**: a test without multiline expectations, any match matrix: the list
written for the real matcher's diff has exactly one entry per output line, in line order: entry `k`
is a retained expectation that matches line `k`, or the expectation generated for line `k` -/
theorem C09_update_unquantified_entries (n m : Nat) (es : Nat → Diff.Exp) (mt : Nat → Nat → Bool)
    (hq : ∀ i, (es i).multiline = false) :
    (slots (diff n m es mt)).length = m ∧
    ∀ k (h : k < (slots (diff n m es mt)).length),
      (∃ ei, (slots (diff n m es mt))[k] = .kept ei ∧ mt ei k = true) ∨
      (slots (diff n m es mt))[k] = .gen k :=
  slots_spec n m es mt hq

/-- **C09 (update, order)**: whatever the quantifiers, the retained expectations are expectations of
the test, each at most once, in their original order -/
theorem C09_update_keeps_order (n m : Nat) (es : Nat → Diff.Exp) (mt : Nat → Nat → Bool) :
    (keptIdx (slots (diff n m es mt))).Pairwise (· < ·) ∧
    ∀ i ∈ keptIdx (slots (diff n m es mt)), i < n :=
  have wf := diff_wf n m es mt
  ⟨wf.idx_sorted.sublist (keptIdx_sublist _), fun i hi => wf.idx_lt i ((keptIdx_sublist _).subset hi)⟩

/-- **C09 (update passes: output)**, the true part of the statement for `update`: a test with `n`
expectations of ANY kinds, NONE of them quantified (`hq`), `mt i j` = "expectation `i` matches line
`j`" arbitrary; any output. Let `d` be the real matcher's diff against the lines of the output and
`sl = slots d` the expectation list `update` writes. Then no entry of `sl` carries a quantifier
(`updQuant`: retained ones by `hq`, generated ones by `C09_line_roundtrip`), and the matcher run on
`sl` -- entry `k` matches line `j` iff `updMatrix … k j`: a retained expectation as `mt` says, a
generated one as its parsed rule says -- against the same lines reports no difference. -/
theorem C09_update_unquantified_passes (P : Params) (hP : StdParams P) (m : Mode) (isOther : Char → Bool)
    (hC : m = .unicode → AsciiContract isOther) (out : List UInt8)
    (n : Nat) (es : Nat → Diff.Exp) (mt : Nat → Nat → Bool) (hq : ∀ i, es i = ⟨false, false⟩) :
    let lines := Newline.splitAtNewline out
    let sl := slots (diff n lines.length es mt)
    (∀ k, updQuant es (genQuant P m isOther lines) sl k = ⟨false, false⟩) ∧
    hasDiff (diff sl.length lines.length (updQuant es (genQuant P m isOther lines) sl)
      (updMatrix mt (matchMatrix P m isOther lines) sl)) = false :=
  update_no_diff n _ es _ mt _ hq (genQuant_none hP m isOther hC _ (Newline.splitAtNewline_isLine out))
    (fun i hi => matchMatrix_diag hP m isOther hC _ (Newline.splitAtNewline_isLine out) i hi)

/-- **C09 (update, changed exit code)**: for `InvalidExitCode` all expectations are discarded and
every line is regenerated: whatever the expectations were (quantified or not), the text is the one
`create` writes for this output and the actual exit code -- for which `C09_create_passes`,
`C09_exit_code_roundtrip` and the end-to-end theorems hold --, and the regenerated list passes -/
theorem C09_update_invalid_exit_code (P : Params) (hP : StdParams P) (m : Mode) (isOther : Char → Bool)
    (hC : m = .unicode → AsciiContract isOther) (cmd : List Char) (origs : List (List Char))
    (out : List UInt8) (actual code : Int) :
    generateTestcaseUpd m isOther cmd origs (.invalidExit actual) (Newline.splitAtNewline out) code =
      generateTestcase m isOther cmd (createResult out actual) out actual ∧
    hasDiff (diff (Newline.splitAtNewline out).length (Newline.splitAtNewline out).length
      (genQuant P m isOther (Newline.splitAtNewline out))
      (matchMatrix P m isOther (Newline.splitAtNewline out))) = false := by
  refine ⟨?_, create_no_diff hP m isOther hC _ (Newline.splitAtNewline_isLine out)⟩
  obtain ⟨ex, hex⟩ := expression_isSome cmd
  rw [generateTestcase_create m isOther cmd ex out actual hex]
  simp [generateTestcaseUpd, hex]

/-! ### `update`: the known counterexample -/

/-- quantifiers of the list `update` writes for the witness: `a* (glob+)`, `*2 (glob)` -/
def updEs : Nat → Diff.Exp := fun i => if i = 0 then ⟨false, true⟩ else ⟨false, false⟩

/-- which of them matches which of the lines `a1`, `a2`, `b2` -/
def updMt : Nat → Nat → Bool := fun e l => (e, l) ∈ [(0, 0), (0, 1), (1, 1), (1, 2)]

/-- **the `update` statement fails on the witness**: the list `update` writes from
`a* (glob+)`, `zzz`, `*2 (glob)` and the output `a1 a2 b2` still has differences on that output
(the run of `a*` ends at `a2` in favour of `*2`, `b2` is left over) -/
theorem C09_update_fails_on_witness : hasDiff (diff 2 3 updEs updMt) = true := by
  decide +kernel

/-- quantifiers of the test of the witness: `a* (glob+)`, `zzz`, `*2 (glob)` -/
def witEs : Nat → Diff.Exp := fun i => if i = 0 then ⟨false, true⟩ else ⟨false, false⟩

/-- which of them matches which of the lines `a1`, `a2`, `b2` -/
def witMt : Nat → Nat → Bool := fun e l => (e, l) ∈ [(0, 0), (0, 1), (2, 1), (2, 2)]

/-- the witness in terms of the model: the diff is `a*` ← `a1 a2`, `zzz` unmatched, `*2` ← `b2`; the
list written has TWO entries for three lines (a multiline expectation holds two of them), and its
quantifiers and match matrix are `updEs`, `updMt` of `C09_update_fails_on_witness` -/
theorem C09_update_witness_slots :
    diff 3 3 witEs witMt = [.matched 0 [0, 1], .unmatched 1, .matched 2 [2]] ∧
    slots (diff 3 3 witEs witMt) = [.kept 0, .kept 2] ∧
    (∀ k, k < 2 → updQuant witEs (fun _ => ⟨false, false⟩) [.kept 0, .kept 2] k = updEs k) ∧
    (∀ k, k < 2 → ∀ j, j < 3 → updMatrix witMt (fun _ _ => false) [.kept 0, .kept 2] k j = updMt k j) := by
  decide +kernel

/-! ### `update` through the composition: the rewritten test passes on the run it was updated from -/

section Integrated
open Scrut.UpdateRun Scrut.UpdateRun.Witness

/-- **C09 (update, integrated, one test)**: `u` a test whose expectation texts compile to its
expectations (`Compiled`: true of every test of a document), `r` the completed run of its command,
`(res, g)` what `validate` and `generate_testcase` make of it.  Then `g` is the text of a test `u'`
(`u` as rewritten: same configuration and command, the written expectation lines compiled by the same
`compile`, the exit code as written) that passes on `r`.  Guard: for `MalformedOutput` no expectation
of `u` carries a quantifier (`C09_update_fails_on_witness`). -/
theorem C09_run_outcome_rejudged (isOther : Char → Bool) (hC : AsciiContract isOther) (u : UTest)
    (hcomp : u.Compiled) (r : TestRun.Ran) (res : UpdResult) (g : List Char)
    (h : outcomeText isOther u r = .ok (res, some g))
    (hq : (∃ d, res = .malformed d) → Unquantified u) :
    ∃ u', RewrittenAs u u' r.code ∧ passText u' = some g ∧ Passes u' r :=
  outcome_rejudged hC hcomp h hq

/-- **C09 (update, integrated, the document)**: after `updateDocument` has overwritten a document,
for every test `k` (prepared test `u`, run `r`, result `res`) the text written into its block
(`gens[k]`) is the text of a test `u'` -- `u` rewritten -- that passes on `r`; for `MalformedOutput`
provided `u` has no quantified expectation. -/
theorem C09_run_rewritten_passes (isOther : Char → Bool) (hC : AsciiContract isOther) (content : List Char)
    (runs : List TestRun.Ran) (text : List Char) (results : List UpdResult)
    (h : updateDocument isOther content runs = .updated text results) :
    ∃ tests gens, docTests content = some tests ∧ docGens isOther content runs = some gens ∧
      gens.length = tests.length ∧ results.length = tests.length ∧
      ∀ (k : Nat) (u : UTest) (r : TestRun.Ran) (res : UpdResult),
        tests[k]? = some u → runs[k]? = some r → results[k]? = some res →
        ((∃ d, res = .malformed d) → Unquantified u) →
        ∃ u', RewrittenAs u u' r.code ∧ gens[k]? = some (passText u') ∧ Passes u' r := by
  obtain ⟨tests, os, hu⟩ := updated_spec h
  refine ⟨tests, os.map (·.2), hu.tests_eq, hu.gens_eq, by simp [hu.length], by simp [hu.results_eq, hu.length], ?_⟩
  intro k u r res hk hr hrs hq
  obtain ⟨r', res', g, hr', hok, hot⟩ := hu.get hk
  rw [hr] at hr'
  cases hr'
  rw [hu.results_eq, List.getElem?_map, hok] at hrs
  cases hrs
  obtain ⟨u', hra, hpt, hps⟩ :=
    outcome_rejudged hC (docTests_compiled hu.tests_eq u (List.mem_of_getElem? hk)) hot hq
  exact ⟨u', hra, by rw [List.getElem?_map, hok, Option.map_some, hpt], hps⟩

/-- the hypotheses hold for the document `# T` / ```` ```scrut ```` / `$ x` / `old` / ```` ``` ```` / `end` and
the output `new`: it is overwritten, its test has the result `MalformedOutput` and no quantifier -/
example : updateDocument ctrl docOrd [runNew] = .updated docOrdOut [.malformed [.unmatched 0, .unexpected [0]]] ∧
    AsciiContract ctrl ∧ docTests docOrd = some [utOld] ∧ Unquantified utOld ∧ utOld.Compiled :=
  ⟨ord_written, ctrl_contract, by rfl, by decide +kernel, .cons (by rfl) .nil⟩

end Integrated

/-! ### non-vacuity -/

/-- the parameter hypothesis holds for the real `\s` and `EscapedRule::make`, any other constructors -/
example (mkGlob mkRegex : List Char → Option (List UInt8)) : StdParams (stdParams mkGlob mkRegex) :=
  stdParams_std mkGlob mkRegex

/-- the hypotheses on the parser environment hold for `envOf` -/
example (P : Params) (isLetter : Char → Bool) :
    (envOf P isLetter).languages = [language] ∧
    (∀ cfg c, cfgInner cfg = some c → (envOf P isLetter).testCfgOk c = true) ∧
    (∀ t e, parse P t = .ok e → (envOf P isLetter).expOk t = true) :=
  ⟨rfl, fun _ _ _ => rfl, fun t e h => by simp [envOf, h]⟩

/-- the command lines of a two-line command, of the empty command and of a command that ends in a line feed;
the texts written for the last two (before fix 961e96b: a panic, and `$ x` without `> `) -/
example : splitNl ['e', 'c', 'h', 'o', ' ', '\\', '\n', ' ', 'x'] [] = [['e', 'c', 'h', 'o', ' ', '\\'], [' ', 'x']] ∧
    splitNl [] [] = [[]] ∧ splitNl ['x', '\n'] [] = [['x'], []] ∧
    expression [] = some ['$', ' ', '\n'] ∧
    expression ['x', '\n'] = some ['$', ' ', 'x', '\n', '>', ' ', '\n'] := by decide +kernel

/-- the hypotheses on the command of the two end-to-end theorems hold for them -/
example : (∀ l ∈ splitNl ['x', '\n'] [], l.getLast? ≠ some '\r') ∧ '\r' ∉ ['x', '\n'] ∧
    (∀ l ∈ splitNl ([] : List Char) [], l.getLast? ≠ some '\r') := by decide +kernel

/-- `contFirst`: the first entry is a retained text starting with `> `; the text written then (exit code 0) -/
example : contFirst [['>', ' ', 'a']] (slots [.matched 0 [0], .unexpected [1]]) = true ∧
    contFirst [['a']] (slots [.matched 0 [0]]) = false ∧
    contFirst [['>', ' ', 'a']] (slots [.unexpected [0], .matched 0 [1]]) = false ∧
    generateTestcaseUpd .ascii Scrut.Props.C11.ctrlOnly ['c'] [['>', ' ', 'a']]
      (.malformed [.matched 0 [0], .unexpected [1]]) [[62, 32, 97, 10], [120, 10]] 0 =
      some ("$ c\n[0]\n> a\nx\n".toList) := by decide +kernel

/-- `IsLine` holds of every piece of every output -/
example (out : List UInt8) : ∀ l ∈ Newline.splitAtNewline out, Newline.IsLine l :=
  Newline.splitAtNewline_isLine out

/-- what is written for `$ foo (no-eol)⏎` (regression of fix 9b34612), `[1]⏎`, `foo (glob)⏎`,
`x<0x01> (no-eol)` (no final line feed) and `> a\b⏎` -/
example :
    expectationLine .unicode Scrut.Props.C11.ctrlOnly [36, 32, 102, 111, 111, 32, 40, 110, 111, 45, 101, 111, 108, 41, 10] =
      some ['\\', 'x', '2', '4', ' ', 'f', 'o', 'o', '\\', 'x', '2', '0', '(', 'n', 'o', '-', 'e', 'o', 'l', ')',
            ' ', '(', 'e', 's', 'c', 'a', 'p', 'e', 'd', ')'] ∧
    expectationLine .ascii Scrut.Props.C11.ctrlOnly [91, 49, 93, 10] =
      some ['[', '1', ']', ' ', '(', 'e', 'q', 'u', 'a', 'l', ')'] ∧
    expectationLine .unicode Scrut.Props.C11.ctrlOnly [102, 111, 111, 32, 40, 103, 108, 111, 98, 41, 10] =
      some ['f', 'o', 'o', ' ', '(', 'g', 'l', 'o', 'b', ')', ' ', '(', 'e', 'q', 'u', 'a', 'l', ')'] ∧
    expectationLine .ascii Scrut.Props.C11.ctrlOnly [120, 1, 32, 40, 110, 111, 45, 101, 111, 108, 41] =
      some ['x', '\\', 'x', '0', '1', '\\', 'x', '2', '0', '(', 'n', 'o', '-', 'e', 'o', 'l', ')',
            ' ', '(', 'e', 's', 'c', 'a', 'p', 'e', 'd', ')'] ∧
    expectationLine .unicode Scrut.Props.C11.ctrlOnly [62, 32, 97, 92, 98, 10] =
      some ['\\', 'x', '3', 'e', ' ', 'a', '\\', '\\', 'b', ' ', '(', 'e', 's', 'c', 'a', 'p', 'e', 'd', ')'] := by
  decide +kernel

/-- `update`, unquantified: the doc example of `src/diff.rs` (`foo1`, `bar`, `baz` against `bla foo1
foo2 foo3 bar`): the list written is generated, `foo1`, generated, generated, `bar` (`baz` dropped) -/
example : slots (diff 3 5 exEs exMt) = [.gen 0, .kept 0, .gen 2, .gen 3, .kept 1] := by
  decide +kernel

/-- the text written for it: expectations `foo1`, `bar`, `baz`, output `bla⏎ foo1⏎ [1]⏎ x⏎ bar⏎`,
exit code 2 -/
example :
    generateTestcaseUpd .ascii Scrut.Props.C11.ctrlOnly ['c'] [['f', 'o', 'o', '1'], ['b', 'a', 'r'], ['b', 'a', 'z']]
      (.malformed [.unexpected [0], .matched 0 [1], .unexpected [2, 3], .matched 1 [4], .unmatched 2])
      [[98, 108, 97, 10], [102, 111, 111, 49, 10], [91, 49, 93, 10], [120, 10], [98, 97, 114, 10]] 2 =
    some ("$ c\nbla\nfoo1\n[1] (equal)\nx\nbar\n[2]\n".toList) := by
  decide +kernel

/-- the hypothesis `hq` of `C09_update_unquantified_passes` holds for `exEs` -/
example : ∀ i, exEs i = ⟨false, false⟩ := fun _ => rfl

end Scrut.Props.C09
