import ScrutModel.Props.C01
import ScrutModel.Props.C02
import ScrutModel.Props.C03
import ScrutModel.Props.C05
import ScrutModel.Props.C14
import ScrutModel.Props.C15
import ScrutModel.Props.C16
import ScrutModel.Props.C20
import ScrutModel.Props.C18
import ScrutModel.Props.C12
import ScrutModel.Props.C06
import ScrutModel.Props.C17
import ScrutModel.Props.C13
import ScrutModel.Props.C19
import ScrutModel.Props.C07
import ScrutModel.Props.C11
import ScrutModel.Props.C04
import ScrutModel.Props.C08
import ScrutModel.Props.C10
import ScrutModel.Props.C09
-- bridging lemmas about the integrated model of `scrut test` (Model/TestRun.lean); the property theorems about
-- the integrated model (Lemmas/TestRunProps.lean) are stated in Props/C01, C05, C15, C16, C20
import ScrutModel.Lemmas.TestRun
import ScrutModel.Lemmas.TestRunProps
-- the single-script path without guards (keep_crlf, commands that leave the shell, skip decision)
import ScrutModel.Lemmas.TestRunScript
-- the integrated executable model of `scrut update --replace` (Model/UpdateRun.lean); tied to the binary by the harness (op `upddoc`);
-- its theorems (Lemmas/MarkdownAlign -- also behind Props/C06 --, UpdateRunFront, UpdateRunRejudge, UpdateRunProps, UpdateRunConfig,
-- UpdateRunReparse, UpdateRunExitFirst, UpdateRunParses, UpdateRunWitness) are stated in Props/C10 and Props/C09
import ScrutModel.Model.UpdateRun
import ScrutModel.Lemmas.UpdateRunWitness
